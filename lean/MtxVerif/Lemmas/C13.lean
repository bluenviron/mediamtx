/-
C13 — generic lemmas about the reload model (any table).
-/
import MtxVerif.Model.C13

namespace MtxVerif.C13

theorem wfl_cons {r : Row} {E : List Row} (h : wfl (r :: E) = true) :
    r.comp ∉ comps E ∧ (∀ c ∈ r.refs, c ∈ comps E) ∧ (∀ c ∈ r.deps, c ∈ comps E) ∧ wfl E = true := by
  simp only [wfl, Bool.and_eq_true, Bool.not_eq_true', List.all_eq_true, List.contains_iff_mem] at h
  obtain ⟨⟨⟨h1, h2⟩, h3⟩, h4⟩ := h
  refine ⟨fun hm => ?_, h2, h3, h4⟩
  rw [List.contains_iff_mem.mpr hm] at h1
  cases h1

/-- Induction for facts about a row of a well-formed table: the row is the head, or it lies in the tail and
its component differs from the head's.  (All recursive functions of the model look a component up this way.) -/
@[elab_as_elim]
theorem wfl_rec {P : List Row → Row → Prop} : ∀ (L : List Row) (r : Row), wfl L = true → r ∈ L →
    (∀ r E, wfl (r :: E) = true → P (r :: E) r) →
    (∀ r0 E r, wfl (r0 :: E) = true → r ∈ E → r.comp ≠ r0.comp → P E r → P (r0 :: E) r) → P L r
  | [], _, _, h, _, _ => nomatch h
  | r0 :: E, r, hw, h, hhead, htail => by
    rcases List.mem_cons.mp h with rfl | h
    · exact hhead r E hw
    · obtain ⟨hnot, _, _, hwE⟩ := wfl_cons hw
      exact htail r0 E r hw h (fun e => hnot (e ▸ List.mem_map_of_mem h)) (wfl_rec E r hwE h hhead htail)

theorem refs_in_comps {L : List Row} (hw : wfl L = true) {r : Row} (hr : r ∈ L) : ∀ c ∈ r.refs, c ∈ comps L :=
  wfl_rec L r hw hr (fun _ _ hw c hc => List.mem_cons_of_mem _ ((wfl_cons hw).2.1 c hc))
    (fun _ _ _ _ _ _ ih c hc => List.mem_cons_of_mem _ (ih c hc))

section
variable (old new : Conf)

theorem flags_eq : ∀ (L : List Row) (k : Nat),
    flags old new L k = (cmpClosure L k).any fun c => differs old new c.field c.kind
  | [], _ => rfl
  | r :: E, k => by
    unfold flags cmpClosure
    split
    · rw [List.any_append, List.any_flatMap]
      exact congrArg _ (List.any_congr rfl (flags_eq E))
    · exact flags_eq E k

variable {old new} in
theorem flags_false {L : List Row} {k : Nat}
    (h : ∀ c ∈ cmpClosure L k, differs old new c.field c.kind ≠ true) : flags old new L k = false := by
  rw [flags_eq]; exact List.any_eq_false.mpr h

theorem flags_of_dep : ∀ (L : List Row) (k d : Nat), wfl L = true → d ∈ depClosure L k →
    d ∈ comps L ∧ (flags old new L d = true → flags old new L k = true)
  | [], _, _, _, h => nomatch h
  | r :: E, k, d, hw, h => by
    obtain ⟨hnot, _, hdeps, hwE⟩ := wfl_cons hw
    -- `d` turns out to lie in the tail, so its flag is computed there
    have tail : d ∈ comps E → d ∈ comps (r :: E) ∧ flags old new (r :: E) d = flags old new E d := fun hd =>
      ⟨List.mem_cons_of_mem _ hd, by simp only [flags, show d ≠ r.comp from fun e => hnot (e ▸ hd), if_false]⟩
    unfold depClosure at h
    by_cases hk : k = r.comp
    · rw [if_pos hk] at h
      simp only [flags, hk, if_true, Bool.or_eq_true, List.any_eq_true]
      rcases List.mem_append.mp h with h | h
      · obtain ⟨hm, hf⟩ := tail (hdeps d h)
        exact ⟨hm, fun hd => Or.inr ⟨d, h, hf ▸ hd⟩⟩
      · obtain ⟨e, hem, hde⟩ := List.mem_flatMap.mp h
        obtain ⟨hdE, ih⟩ := flags_of_dep E e d hwE hde
        obtain ⟨hm, hf⟩ := tail hdE
        exact ⟨hm, fun hd => Or.inr ⟨e, hem, ih (hf ▸ hd)⟩⟩
    · rw [if_neg hk] at h
      obtain ⟨hdE, ih⟩ := flags_of_dep E k d hwE h
      obtain ⟨hm, hf⟩ := tail hdE
      simp only [flags, hk, if_false]
      exact ⟨hm, fun hd => ih (hf ▸ hd)⟩

theorem midRun_notin (old new : Conf) (fl : Nat → Bool) (run : Nat → Option Inst) :
    ∀ (L : List Row) (k : Nat), k ∉ comps L → midRun old new fl run L k = run k
  | [], _, _ => rfl
  | r :: E, k, h => by
    simp only [comps, List.map_cons, List.mem_cons, not_or] at h
    simp only [midRun, h.1, if_false]
    exact midRun_notin old new fl run E k h.2

theorem midRun_mem (fl : Nat → Bool) (run : Nat → Option Inst) {L : List Row}
    (hw : wfl L = true) {r : Row} (hr : r ∈ L) :
    midRun old new fl run L r.comp = if fl r.comp then none else (run r.comp).map (patch old new r) :=
  wfl_rec L r hw hr (fun _ _ _ => by simp only [midRun, if_true])
    (fun _ _ _ _ _ hne ih => by simp only [midRun, hne, if_false]; exact ih)

end

section
variable (g : Nat → Bool) (r : Row) (s : St)

theorem createOne_run_ne {k : Nat} (h : k ≠ r.comp) :
    (createOne g r s).run k = s.run k := by
  unfold createOne
  split
  · simp [setRun, h]
  · rfl

theorem createOne_run_self : (createOne g r s).run r.comp =
    if g r.comp && (s.run r.comp).isNone
    then some { id := s.next, args := s.conf.val, refs := fun c => (s.run c).map (·.id) } else s.run r.comp := by
  unfold createOne
  split
  · simp [setRun]
  · rfl

theorem createOne_conf : (createOne g r s).conf = s.conf := by
  unfold createOne; split <;> rfl

theorem createOne_panicked : (createOne g r s).panicked = s.panicked := by
  unfold createOne; split <;> rfl

theorem createOne_next_le : s.next ≤ (createOne g r s).next := by
  unfold createOne; split
  · exact Nat.le_succ _
  · exact Nat.le_refl _

end

theorem createAll_conf (g : Nat → Bool) : ∀ (L : List Row) (s : St), (createAll g L s).conf = s.conf
  | [], _ => rfl
  | r :: E, s => (createOne_conf g r _).trans (createAll_conf g E s)

theorem createAll_panicked (g : Nat → Bool) :
    ∀ (L : List Row) (s : St), (createAll g L s).panicked = s.panicked
  | [], _ => rfl
  | r :: E, s => (createOne_panicked g r _).trans (createAll_panicked g E s)

theorem createAll_next_le (g : Nat → Bool) : ∀ (L : List Row) (s : St), s.next ≤ (createAll g L s).next
  | [], _ => Nat.le_refl _
  | r :: E, s => Nat.le_trans (createAll_next_le g E s) (createOne_next_le g r _)

theorem createAll_run_notin (g : Nat → Bool) :
    ∀ (L : List Row) (s : St) (k : Nat), k ∉ comps L → (createAll g L s).run k = s.run k
  | [], _, _, _ => rfl
  | r :: E, s, k, h => by
    simp only [comps, List.map_cons, List.mem_cons, not_or] at h
    exact (createOne_run_ne g r _ h.1).trans (createAll_run_notin g E s k h.2)

/-- What createResources does for one component. -/
structure Created (g : Nat → Bool) (s s' : St) (r : Row) : Prop where
  isSome : (s'.run r.comp).isSome = ((s.run r.comp).isSome || g r.comp)
  keep : ∀ i, s.run r.comp = some i → s'.run r.comp = some i
  fresh : s.run r.comp = none → ∀ i, s'.run r.comp = some i →
    i.args = s.conf.val ∧ (∀ c ∈ r.refs, i.refs c = (s'.run c).map (·.id)) ∧
    s.next ≤ i.id ∧ i.id < s'.next

theorem createAll_spec (g : Nat → Bool) {L : List Row} (hw : wfl L = true) {r : Row} (hr : r ∈ L) :
    ∀ s, Created g s (createAll g L s) r := by
  refine wfl_rec L r hw hr (fun r E hw s => ?_) (fun r0 E r hw hr hne ih s => ?_)
  · -- the head: created last, on top of `s1`, which differs from `s` in the tail components only
    obtain ⟨hnot, hrefs, _, _⟩ := wfl_cons hw
    have h1 := createAll_run_notin g E s r.comp hnot
    have hc1 := createAll_conf g E s
    have hn1 := createAll_next_le g E s
    have hself := createOne_run_self g r (createAll g E s)
    show Created g s (createOne g r (createAll g E s)) r
    generalize createAll g E s = s1 at h1 hc1 hn1 hself
    rw [h1] at hself
    refine ⟨?_, fun i hi => ?_, fun hn i hi => ?_⟩
    · rw [hself]
      cases s.run r.comp <;> cases g r.comp <;> rfl
    · rw [hself, hi]; simp
    · rw [hself, hn] at hi
      cases hg : g r.comp with
      | false => rw [hg] at hi; cases hi
      | true =>
        rw [hg] at hi
        obtain rfl := Option.some.inj hi
        refine ⟨congrArg Conf.val hc1, fun c hc => ?_, hn1, ?_⟩
        · -- the components it points to lie in the tail
          rw [createOne_run_ne g r s1 fun e => hnot (e ▸ hrefs c hc)]
        · unfold createOne
          rw [hg, h1, hn]
          exact Nat.lt_succ_self _
  · -- a tail component: the head's block does not touch it, nor anything it points to
    obtain ⟨hnot, _, _, hwE⟩ := wfl_cons hw
    have ih := ih s
    have hrun : ∀ {k}, k ≠ r0.comp → (createAll g (r0 :: E) s).run k = (createAll g E s).run k :=
      createOne_run_ne g r0 _
    refine ⟨?_, fun i hi => ?_, fun hn i hi => ?_⟩
    · rw [hrun hne]; exact ih.isSome
    · rw [hrun hne]; exact ih.keep i hi
    · rw [hrun hne] at hi
      obtain ⟨ha, hr', hlo, hhi⟩ := ih.fresh hn i hi
      refine ⟨ha, fun c hc => ?_, hlo, Nat.lt_of_lt_of_le hhi (createOne_next_le g r0 _)⟩
      rw [hrun fun e => hnot (e ▸ refs_in_comps hwE hr c hc)]
      exact hr' c hc

end MtxVerif.C13
