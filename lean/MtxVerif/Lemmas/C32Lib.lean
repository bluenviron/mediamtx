/-
C32 — lemmas about the codec library (Model/C32.lean): for every primitive and combinator
  * `.r` computation rules and the round-trip rule,
  * `Total`   : never the panic outcome,
  * `NonIncr` / `Strict` : the unread rest is no longer / strictly shorter than the input,
  * `AllocB B`: `alloc + A·|rest| ≤ A·|input| + B`  (allocation is paid for by consumed input, up to `B`),
  * `AllocC K`: `alloc ≤ K` whatever the input (stream readers).
A decoder that slices is first rewritten onto `takeD`, the length check fused with the slice it guards;
that is the one place where panic freedom is decided, the rest is composition along `bind`.
-/
import MtxVerif.Model.C32

namespace MtxVerif.C32

/-- bytes of allocation per consumed input byte that the buffer decoders may cause (the worst case is
one `append`ed parameter per consumed byte: 48-byte struct + amortised slice growth) -/
notation "A" => (128 : Nat)

def Total (d : Dec α) : Prop := ∀ b, (d b).r ≠ .panic
def NonIncr (d : Dec α) : Prop := ∀ b v r, (d b).r = .ok v r → r.length ≤ b.length
def Strict (d : Dec α) : Prop := ∀ b v r, (d b).r = .ok v r → r.length < b.length
def AllocB (B : Nat) (d : Dec α) : Prop := ∀ b, (d b).alloc + A * (d b).r.restLen ≤ A * b.length + B
def AllocC (K : Nat) (d : Dec α) : Prop := ∀ b, (d b).alloc ≤ K

/-- round trip of a prefix codec: decoding `enc v` followed by anything returns `v` and that anything -/
def RT (enc : α → Bytes) (dec : Dec α) (wf : α → Prop) : Prop :=
  ∀ v tail, wf v → (dec (enc v ++ tail)).r = .ok v tail

@[simp] theorem pure_eq (v : α) : (Pure.pure v : Dec α) = Dec.pure v := rfl
@[simp] theorem bind_eq (d : Dec α) (f : α → Dec β) : (d >>= f) = Dec.bind d f := rfl

theorem bind_r (d : Dec α) (f : α → Dec β) (b : Bytes) :
    (Dec.bind d f b).r = match (d b).r with
      | .ok v rest => (f v rest).r
      | .err e => .err e
      | .panic => .panic := by
  unfold Dec.bind
  cases h : d b with
  | mk r a => cases r <;> simp

theorem bind_alloc (d : Dec α) (f : α → Dec β) (b : Bytes) :
    (Dec.bind d f b).alloc = (d b).alloc + match (d b).r with
      | .ok v rest => (f v rest).alloc
      | _ => 0 := by
  unfold Dec.bind
  cases h : d b with
  | mk r a => cases r <;> simp

theorem bind_ok {d : Dec α} {f : α → Dec β} {b : Bytes} {v : α} {rest : Bytes}
    (h : (d b).r = .ok v rest) : (Dec.bind d f b).r = (f v rest).r := by
  rw [bind_r, h]

theorem bind_err {d : Dec α} {f : α → Dec β} {b : Bytes} {e : Err}
    (h : (d b).r = .err e) : (Dec.bind d f b).r = .err e := by
  rw [bind_r, h]

theorem bind_ok_inv {d : Dec α} {f : α → Dec β} {b : Bytes} {w : β} {r : Bytes}
    (h : (Dec.bind d f b).r = .ok w r) : ∃ v m, (d b).r = .ok v m ∧ (f v m).r = .ok w r := by
  rw [bind_r] at h
  cases hd : (d b).r with
  | ok v m => rw [hd] at h; exact ⟨v, m, rfl, h⟩
  | err _ | panic => rw [hd] at h; cases h

theorem bind_ne_panic {d : Dec α} {f : α → Dec β} {b : Bytes} (hd : (d b).r ≠ .panic)
    (hf : ∀ v r, (d b).r = .ok v r → (f v r).r ≠ .panic) : (Dec.bind d f b).r ≠ .panic := by
  rw [bind_r]
  cases h : (d b).r with
  | ok v rest => exact hf v rest h
  | err e => nofun
  | panic => exact absurd h hd

theorem bind_of_ok {d : Dec α} {f : α → Dec β} {b m : Bytes} {v : α} (h : d b = ⟨.ok v m, 0⟩) :
    Dec.bind d f b = f v m := by
  unfold Dec.bind
  rw [h]
  simp

theorem bind_of_err {d : Dec α} {f : α → Dec β} {b : Bytes} {e : Err} {a : Nat}
    (h : d b = ⟨.err e, a⟩) : Dec.bind d f b = ⟨.err e, a⟩ := by
  unfold Dec.bind
  rw [h]

@[simp] theorem pure_r (v : α) (b : Bytes) : (Dec.pure v b).r = .ok v b := rfl
@[simp] theorem pure_alloc (v : α) (b : Bytes) : (Dec.pure v b).alloc = 0 := rfl
@[simp] theorem fail_r (e : Err) (b : Bytes) : (Dec.fail e b : Out α).r = .err e := rfl
@[simp] theorem fail_alloc (e : Err) (b : Bytes) : (Dec.fail e b : Out α).alloc = 0 := rfl
theorem crash_r (b : Bytes) : (Dec.crash b : Out α).r = .panic := rfl
theorem crash_alloc (b : Bytes) : (Dec.crash b : Out α).alloc = 0 := rfl

theorem Total.bind {d : Dec α} {f : α → Dec β} (h1 : Total d) (h2 : ∀ v, Total (f v)) :
    Total (Dec.bind d f) :=
  fun b => bind_ne_panic (h1 b) fun v r _ => h2 v r

theorem NonIncr.bind {d : Dec α} {f : α → Dec β} (h1 : NonIncr d) (h2 : ∀ v, NonIncr (f v)) :
    NonIncr (Dec.bind d f) := fun b w r h =>
  let ⟨v, m, hd, hf⟩ := bind_ok_inv h
  Nat.le_trans (h2 v m w r hf) (h1 b v m hd)

theorem Strict.bind {d : Dec α} {f : α → Dec β} (h1 : Strict d) (h2 : ∀ v, NonIncr (f v)) :
    Strict (Dec.bind d f) := fun b w r h =>
  let ⟨v, m, hd, hf⟩ := bind_ok_inv h
  Nat.lt_of_le_of_lt (h2 v m w r hf) (h1 b v m hd)

theorem Strict.nonIncr {d : Dec α} (h : Strict d) : NonIncr d :=
  fun b v r hr => Nat.le_of_lt (h b v r hr)

theorem AllocB.bind {d : Dec α} {f : α → Dec β} {B1 B2 : Nat} (h1 : AllocB B1 d)
    (h2 : ∀ v, AllocB B2 (f v)) : AllocB (B1 + B2) (Dec.bind d f) := by
  intro b
  rw [bind_r, bind_alloc]
  have a1 := h1 b
  cases hd : (d b).r with
  | ok w rest =>
    have a2 := h2 w rest
    rw [hd, Res.restLen] at a1
    show (d b).alloc + (f w rest).alloc + A * (f w rest).r.restLen ≤ A * b.length + (B1 + B2)
    omega
  | err _ | panic => rw [hd] at a1; exact Nat.le_trans a1 (Nat.add_le_add_left (Nat.le_add_right _ _) _)

theorem AllocB.mono {d : Dec α} {B B' : Nat} (h : AllocB B d) (hb : B ≤ B') : AllocB B' d :=
  fun b => Nat.le_trans (h b) (Nat.add_le_add_left hb _)

/-- a leading decoder whose allocation is wholly paid for by the input it consumes leaves the bound of
what follows as it is -/
theorem AllocB.bindPaid {d : Dec α} {f : α → Dec β} {B : Nat} (h1 : AllocB 0 d) (h2 : ∀ v, AllocB B (f v)) :
    AllocB B (Dec.bind d f) := (AllocB.bind h1 h2).mono (Nat.le_of_eq (Nat.zero_add B))

theorem AllocB.le {d : Dec α} {B : Nat} (h : AllocB B d) (b : Bytes) :
    (d b).alloc ≤ A * b.length + B := Nat.le_trans (Nat.le_add_right _ _) (h b)

theorem AllocC.bindOk {d : Dec α} {f : α → Dec β} {K1 K2 : Nat} (h1 : AllocC K1 d)
    (h2 : ∀ b v r, (d b).r = .ok v r → AllocC K2 (f v)) : AllocC (K1 + K2) (Dec.bind d f) := by
  intro b
  rw [bind_alloc]
  cases hd : (d b).r with
  | ok w rest => exact Nat.add_le_add (h1 b) (h2 b w rest hd rest)
  | err _ | panic => exact Nat.le_trans (h1 b) (Nat.le_add_right _ _)

theorem AllocC.bind {d : Dec α} {f : α → Dec β} {K1 K2 : Nat} (h1 : AllocC K1 d)
    (h2 : ∀ v, AllocC K2 (f v)) : AllocC (K1 + K2) (Dec.bind d f) :=
  AllocC.bindOk h1 fun _ v _ _ => h2 v

theorem AllocC.mono {d : Dec α} {K K' : Nat} (h : AllocC K d) (hk : K ≤ K') : AllocC K' d :=
  fun b => Nat.le_trans (h b) hk

theorem AllocC.zero {d : Dec α} (h : ∀ b, (d b).alloc = 0) : AllocC 0 d :=
  fun b => Nat.le_of_eq (h b)

theorem AllocC.allocB {d : Dec α} {K : Nat} (hc : AllocC K d) (hn : NonIncr d) : AllocB K d := by
  intro b
  have hr : (d b).r.restLen ≤ b.length := by
    cases hd : (d b).r with
    | ok v r => exact hn b v r hd
    | err _ | panic => exact Nat.zero_le _
  rw [Nat.add_comm]
  exact Nat.add_le_add (Nat.mul_le_mul_left _ hr) (hc b)

/-- a leading decoder that allocates nothing and consumes at least one byte pays for up to `A` bytes
allocated by what follows -/
theorem AllocB.bindStrict {d : Dec α} {f : α → Dec β} (h0 : ∀ b, (d b).alloc = 0) (hs : Strict d)
    (h2 : ∀ v, AllocB A (f v)) : AllocB 0 (Dec.bind d f) := by
  intro b
  rw [bind_r, bind_alloc, h0 b]
  cases hd : (d b).r with
  | ok w rest =>
    show 0 + (f w rest).alloc + A * (f w rest).r.restLen ≤ A * b.length + 0
    rw [Nat.zero_add]
    exact Nat.le_trans (h2 w rest) (Nat.mul_le_mul_left A (hs b w rest hd))
  | err _ | panic => exact Nat.zero_le _

theorem Total.pure (v : α) : Total (Dec.pure v) := fun _ => nofun
theorem Total.fail (e : Err) : Total (Dec.fail e : Dec α) := fun _ => nofun
theorem NonIncr.pure (v : α) : NonIncr (Dec.pure v) := fun _ _ _ h => by cases h; exact Nat.le_refl _
theorem NonIncr.fail (e : Err) : NonIncr (Dec.fail e : Dec α) := fun _ _ _ => nofun
theorem AllocC.pure (v : α) : AllocC 0 (Dec.pure v) := AllocC.zero (pure_alloc v)
theorem AllocC.fail (e : Err) : AllocC 0 (Dec.fail e : Dec α) := AllocC.zero (fail_alloc e)
theorem AllocB.pure (v : α) : AllocB 0 (Dec.pure v) := (AllocC.pure v).allocB (NonIncr.pure v)
theorem AllocB.fail (e : Err) : AllocB 0 (Dec.fail e : Dec α) := (AllocC.fail e).allocB (NonIncr.fail e)

theorem Total.map {d : Dec α} (f : α → β) (h : Total d) : Total (Dec.map f d) :=
  Total.bind h fun _ => Total.pure _
theorem NonIncr.map {d : Dec α} (f : α → β) (h : NonIncr d) : NonIncr (Dec.map f d) :=
  NonIncr.bind h fun _ => NonIncr.pure _
theorem AllocB.map {d : Dec α} {B : Nat} (f : α → β) (h : AllocB B d) : AllocB B (Dec.map f d) :=
  AllocB.bind h fun v => AllocB.pure (f v)
theorem map_ok {d : Dec α} {f : α → β} {b : Bytes} {v : α} {rest : Bytes}
    (h : (d b).r = .ok v rest) : (Dec.map f d b).r = .ok (f v) rest := bind_ok h

@[simp] theorem allocD_r (n : Nat) (b : Bytes) : (allocD n b).r = .ok () b := rfl
@[simp] theorem allocD_alloc (n : Nat) (b : Bytes) : (allocD n b).alloc = n := rfl
@[simp] theorem lenD_r (b : Bytes) : (lenD b).r = .ok b.length b := rfl
@[simp] theorem lenD_alloc (b : Bytes) : (lenD b).alloc = 0 := rfl
@[simp] theorem takeAll_r (b : Bytes) : (takeAll b).r = .ok b [] := rfl
@[simp] theorem takeAll_alloc (b : Bytes) : (takeAll b).alloc = 0 := rfl

theorem hasLen_iff (n : Nat) (b : Bytes) : hasLen n b = true ↔ n ≤ b.length := by
  induction n generalizing b with
  | zero => simp [hasLen]
  | succ n ih => cases b <;> simp [hasLen, ih]

theorem needD_eq (n : Nat) (e : Err) (b : Bytes) :
    needD n e b = if n ≤ b.length then ⟨.ok () b, 0⟩ else ⟨.err e, 0⟩ := by
  simp only [needD, hasLen_iff]

theorem bind_guardD (c : Bool) (e : Err) (f : Unit → Dec β) (b : Bytes) :
    Dec.bind (guardD c e) f b = if c then f () b else ⟨.err e, 0⟩ := by
  cases c
  · exact bind_of_err rfl
  · exact bind_of_ok rfl

theorem bind_guardD_pos {c : Bool} {e : Err} {f : Unit → Dec β} {b : Bytes} (h : c = true) :
    Dec.bind (guardD c e) f b = f () b := by
  rw [bind_guardD, if_pos h]

theorem bind_needD (n : Nat) (e : Err) (f : Unit → Dec β) (b : Bytes) :
    Dec.bind (needD n e) f b = if n ≤ b.length then f () b else ⟨.err e, 0⟩ := by
  by_cases h : n ≤ b.length
  · rw [if_pos h, bind_of_ok (by rw [needD_eq, if_pos h])]
  · rw [if_neg h, bind_of_err (by rw [needD_eq, if_neg h])]

theorem needD_alloc (n : Nat) (e : Err) (b : Bytes) : (needD n e b).alloc = 0 := by
  rw [needD_eq]
  split <;> rfl

/-- `buf[0]` behind its length check -/
theorem bind_need_byte0 (e : Err) (f : UInt8 → Dec β) (x : UInt8) (t : Bytes) :
    Dec.bind (needD 1 e) (fun _ => Dec.bind byte0 f) (x :: t) = f x t := by
  rw [bind_needD, if_pos (show 1 ≤ (x :: t).length from Nat.le_add_left 1 _), bind_of_ok rfl]

theorem bind_allocD (k : Nat) (f : Unit → Dec β) (b : Bytes) :
    Dec.bind (allocD k) f b = ⟨(f () b).r, k + (f () b).alloc⟩ := rfl

theorem guardD_ok {c : Bool} {e : Err} {b r : Bytes} {u : Unit} (h : (guardD c e b).r = .ok u r) :
    c = true ∧ r = b := by
  cases c
  · cases h
  · cases h; exact ⟨rfl, rfl⟩

theorem guardD_alloc (c : Bool) (e : Err) (b : Bytes) : (guardD c e b).alloc = 0 := by
  cases c <;> rfl

theorem Total.guardD (c : Bool) (e : Err) : Total (guardD c e) := fun b => by cases c <;> nofun
theorem NonIncr.guardD (c : Bool) (e : Err) : NonIncr (guardD c e) :=
  fun _ _ _ h => Nat.le_of_eq (congrArg _ (guardD_ok h).2)
theorem AllocC.guardD (c : Bool) (e : Err) : AllocC 0 (guardD c e) := AllocC.zero (guardD_alloc c e)
theorem AllocB.guardD (c : Bool) (e : Err) : AllocB 0 (guardD c e) :=
  (AllocC.guardD c e).allocB (NonIncr.guardD c e)

theorem Total.allocD (n : Nat) : Total (allocD n) := fun _ => nofun
theorem NonIncr.allocD (n : Nat) : NonIncr (allocD n) := fun _ _ _ h => by cases h; exact Nat.le_refl _
theorem AllocC.allocD (n : Nat) : AllocC n (allocD n) := fun _ => Nat.le_refl _
theorem AllocB.allocD (n : Nat) : AllocB n (allocD n) := (AllocC.allocD n).allocB (NonIncr.allocD n)

theorem Total.takeAll : Total takeAll := fun _ => nofun
theorem NonIncr.takeAll : NonIncr takeAll := fun _ _ _ h => by cases h; exact Nat.zero_le _
theorem AllocB.takeAll : AllocB 0 takeAll := (AllocC.zero takeAll_alloc).allocB NonIncr.takeAll

theorem onBytes_r (inner : Dec α) (sub outer : Bytes) :
    (onBytes inner sub outer).r = match (inner sub).r with
      | .ok v _ => .ok v outer
      | .err e => .err e
      | .panic => .panic := by
  unfold onBytes
  cases h : inner sub with
  | mk r a => cases r <;> simp

theorem onBytes_alloc (inner : Dec α) (sub outer : Bytes) :
    (onBytes inner sub outer).alloc = (inner sub).alloc := by
  unfold onBytes
  cases h : inner sub with
  | mk r a => cases r <;> simp

theorem Total.onBytes {inner : Dec α} (h : Total inner) (sub : Bytes) : Total (onBytes inner sub) := by
  intro b
  rw [onBytes_r]
  cases hi : (inner sub).r with
  | ok _ _ | err _ => nofun
  | panic => exact absurd hi (h sub)

theorem NonIncr.onBytes (inner : Dec α) (sub : Bytes) : NonIncr (onBytes inner sub) := by
  intro b v r h
  rw [onBytes_r] at h
  split at h <;> cases h
  exact Nat.le_refl _

/-- the inner decoder's allocation is bounded through the length of the sub-buffer -/
theorem AllocC.onBytes {inner : Dec α} {B n : Nat} (h : AllocB B inner) (sub : Bytes)
    (hn : sub.length ≤ n) : AllocC (A * n + B) (onBytes inner sub) := fun b =>
  onBytes_alloc inner sub b ▸
    Nat.le_trans (h.le sub) (Nat.add_le_add_right (Nat.mul_le_mul_left _ hn) _)

theorem AllocB.onBytes {inner : Dec α} {K : Nat} (h : AllocC K inner) (sub : Bytes) :
    AllocB K (onBytes inner sub) :=
  AllocC.allocB (fun b => onBytes_alloc inner sub b ▸ h sub) (NonIncr.onBytes inner sub)

/-- `needD n e` followed by `slice n`, the only way the decoders slice: the check dominates the
slice, so this never panics.  `k` bytes are allocated between the two (`string(buf[:n])`). -/
def takeD (n : Nat) (e : Err) (k : Nat := 0) : Dec Bytes := fun b =>
  if n ≤ b.length then ⟨.ok (b.take n) (b.drop n), k⟩ else ⟨.err e, 0⟩

theorem need_slice_bind (n : Nat) (e : Err) (f : Bytes → Dec β) :
    (Dec.bind (needD n e) fun _ => Dec.bind (slice n) f) = Dec.bind (takeD n e) f := by
  funext b
  rw [bind_needD]
  unfold Dec.bind slice takeD
  split <;> rfl

theorem need_alloc_slice (n : Nat) (e : Err) (k : Nat) :
    (Dec.bind (needD n e) fun _ => Dec.bind (allocD k) fun _ => slice n) = takeD n e k := by
  funext b
  rw [bind_needD, bind_allocD]
  unfold slice takeD
  split <;> rfl

theorem need_slice (n : Nat) (e : Err) : (Dec.bind (needD n e) fun _ => slice n) = takeD n e := by
  funext b
  rw [bind_needD]
  unfold slice takeD
  split <;> rfl

theorem takeD_ok {n k : Nat} {e : Err} {b v r : Bytes} (h : (takeD n e k b).r = .ok v r) :
    v.length = n ∧ r.length + n = b.length := by
  unfold takeD at h
  split at h <;> cases h
  rw [List.length_take, List.length_drop]
  omega

theorem takeD_rt {n : Nat} (e : Err) (k : Nat) {v : Bytes} (h : v.length = n) (tail : Bytes) :
    (takeD n e k (v ++ tail)).r = .ok v tail := by
  subst h
  rw [takeD, if_pos (by simp), List.take_left, List.drop_left]

theorem Total.takeD (n : Nat) (e : Err) (k : Nat) : Total (takeD n e k) := fun b => by
  unfold C32.takeD
  split <;> nofun

theorem NonIncr.takeD (n : Nat) (e : Err) (k : Nat) : NonIncr (takeD n e k) :=
  fun _ _ _ h => Nat.le.intro (takeD_ok h).2

theorem AllocC.takeD (n : Nat) (e : Err) (k : Nat) : AllocC k (takeD n e k) := fun b => by
  unfold C32.takeD
  split
  · exact Nat.le_refl _
  · exact Nat.zero_le _

theorem AllocB.takeD (n : Nat) (e : Err) {k : Nat} (hk : k ≤ A * n) : AllocB 0 (takeD n e k) := by
  intro b
  unfold C32.takeD
  split
  · show k + A * (b.drop n).length ≤ A * b.length + 0
    rw [List.length_drop]
    omega
  · exact Nat.zero_le _

theorem varint_nil (s : Bool) : varint s [] = ⟨.err .short, 0⟩ := rfl

theorem varint_cons (s : Bool) (x : UInt8) (t : Bytes) {n : Nat} (hn : sizeOfFirst x.toNat = n + 1) :
    varint s (x :: t) =
      ⟨if n ≤ t.length then .ok ((x.toNat - prefixOf (n + 1)) * 256 ^ n + beNat (t.take n)) (t.drop n)
        else .err .short, if s then n else 0⟩ := by
  unfold varint
  simp only [bind_eq, pure_eq]
  rw [bind_need_byte0, hn]
  cases n with
  | zero => simp [Dec.pure, prefixOf, beNat]
  | succ k =>
    simp only [Nat.add_sub_cancel]
    rw [if_neg (by simp), bind_allocD, bind_needD]
    by_cases h : k + 1 ≤ t.length
    · rw [if_pos h, if_pos h, bind_of_ok (if_pos h : slice (k + 1) t = _)]
      cases s <;> rfl
    · rw [if_neg h, if_neg h]
      cases s <;> rfl

/-- a property of every branch of an `if` holds of the `if`; applied eight times it walks down the
threshold chains of `sizeOfFirst` and `varintLen` -/
theorem ite_ind {p : α → Prop} {c : Prop} [Decidable c] {a b : α} (ha : c → p a) (hb : ¬c → p b) :
    p (if c then a else b) := by
  by_cases h : c
  · rw [if_pos h]; exact ha h
  · rw [if_neg h]; exact hb h

theorem sizeOfFirst_range (b : Nat) : 1 ≤ sizeOfFirst b ∧ sizeOfFirst b ≤ 9 := by
  unfold sizeOfFirst
  iterate 8 refine ite_ind (p := fun n : Nat => 1 ≤ n ∧ n ≤ 9) (fun _ => by decide) fun _ => ?_
  decide

/-- `varint` never panics, allocates at most the 8 bytes of `Read`'s buffer, and a successful one
has consumed the first byte and at most 8 more -/
theorem varint_spec (s : Bool) (b : Bytes) :
    (varint s b).r ≠ .panic ∧ (varint s b).alloc ≤ (if s then 8 else 0) ∧
      ∀ v r, (varint s b).r = .ok v r → r.length < b.length ∧ b.length ≤ r.length + 9 := by
  cases b with
  | nil => exact ⟨nofun, Nat.zero_le _, nofun⟩
  | cons x t =>
    have h9 := (sizeOfFirst_range x.toNat).2
    obtain ⟨n, hn⟩ : ∃ n, sizeOfFirst x.toNat = n + 1 :=
      ⟨_, (Nat.sub_add_cancel (sizeOfFirst_range x.toNat).1).symm⟩
    rw [varint_cons s x t hn]
    refine ⟨?_, ?_, fun v r h => ?_⟩
    · split <;> nofun
    · cases s
      · exact Nat.le_refl _
      · show n ≤ 8
        omega
    · split at h <;> cases h
      rw [List.length_drop, List.length_cons]
      omega

theorem Total.varint (s : Bool) : Total (varint s) := fun b => (varint_spec s b).1
theorem Strict.varint (s : Bool) : Strict (varint s) := fun b v r h => ((varint_spec s b).2.2 v r h).1
theorem varint_alloc0 (b : Bytes) : (varint false b).alloc = 0 := Nat.le_zero.mp (varint_spec false b).2.1

theorem beBytes_length (k v : Nat) : (beBytes k v).length = k := by
  induction k with
  | zero => rfl
  | succ k ih => rw [beBytes, List.length_cons, ih]

theorem beNat_beBytes (k v : Nat) : beNat (beBytes k v) = v % 256 ^ k := by
  induction k with
  | zero => exact (Nat.mod_one v).symm
  | succ k ih =>
    rw [beBytes, beNat, ih, beBytes_length, UInt8.toNat_ofNat', Nat.mod_pow_succ (b := 256), Nat.add_comm,
      Nat.mul_comm]

theorem beNat_lt (b : Bytes) : beNat b < 256 ^ b.length := by
  induction b with
  | nil => decide
  | cons x xs ih =>
    rw [beNat, List.length_cons, Nat.pow_succ]
    have := Nat.mul_le_mul_right (256 ^ xs.length) (Nat.le_of_lt_succ x.toNat_lt)
    omega

theorem varintLen_range (v : Nat) : 1 ≤ varintLen v ∧ varintLen v ≤ 9 := by
  unfold varintLen
  iterate 8 refine ite_ind (p := fun n : Nat => 1 ≤ n ∧ n ≤ 9) (fun _ => by decide) fun _ => ?_
  decide

/-- size table of the encoder (`MarshalSize`) -/
theorem encVarint_length (v : Nat) : (encVarint v).length = varintLen v := by
  rw [encVarint, List.length_cons, beBytes_length]
  exact Nat.sub_add_cancel (varintLen_range v).1

/-- an `n`-byte varint has room for `8 - n` bits in its first byte and 8 in each of the others; the
encoder picks the first `n` whose room suffices -/
theorem varintLen_cap (v : Nat) (hv : v < 2 ^ 64) :
    v < 2 ^ (8 - varintLen v) * 256 ^ (varintLen v - 1) := by
  unfold varintLen
  iterate 8
    refine ite_ind (p := fun n : Nat => v < 2 ^ (8 - n) * 256 ^ (n - 1))
      (fun h => Nat.lt_of_lt_of_le h (by decide)) fun _ => ?_
  exact Nat.lt_of_lt_of_le hv (by decide)

/-- the decoder's `switch` on the first byte inverts the encoder's choice of prefix, for each of the
256 first bytes -/
theorem firstByte : ∀ n, n < 10 → 1 ≤ n → ∀ q, q < 2 ^ (8 - n) →
    prefixOf n + q < 256 ∧ sizeOfFirst (prefixOf n + q) = n := by
  decide +kernel

/-- **varint round trip**, every `v < 2^64` -/
theorem varint_rt (s : Bool) (v : Nat) (hv : v < 2 ^ 64) (tail : Bytes) :
    (varint s (encVarint v ++ tail)).r = .ok v tail := by
  obtain ⟨h1, h9⟩ := varintLen_range v
  obtain ⟨n, hn⟩ : ∃ n, varintLen v = n + 1 := ⟨_, (Nat.sub_add_cancel h1).symm⟩
  have hq : v / 256 ^ n < 2 ^ (8 - (n + 1)) := by
    have := varintLen_cap v hv
    rw [hn, Nat.add_sub_cancel, Nat.mul_comm] at this
    exact Nat.div_lt_of_lt_mul this
  obtain ⟨hf, hs⟩ := firstByte (n + 1) (by omega) (by omega) _ hq
  have hb := beBytes_length n v
  rw [encVarint, hn, Nat.add_sub_cancel, List.cons_append,
    varint_cons s _ _ (by rw [UInt8.toNat_ofNat', Nat.mod_eq_of_lt hf, hs])]
  show (if n ≤ (beBytes n v ++ tail).length then _ else _) = _
  rw [if_pos (by rw [List.length_append, hb]; exact Nat.le_add_right _ _), List.take_left' hb,
    List.drop_left' hb, beNat_beBytes, UInt8.toNat_ofNat', Nat.mod_eq_of_lt hf, Nat.add_sub_cancel_left,
    Nat.div_add_mod']

theorem NonIncr.varint (s : Bool) : NonIncr (varint s) := (Strict.varint s).nonIncr
theorem AllocC.varint (s : Bool) : AllocC 8 (varint s) := fun b =>
  Nat.le_trans (varint_spec s b).2.1 (by cases s <;> decide)
theorem AllocB.varint (s : Bool) : AllocB 8 (varint s) := (AllocC.varint s).allocB (NonIncr.varint s)
theorem AllocB.varint0 : AllocB 0 (C32.varint false) := (AllocC.zero varint_alloc0).allocB (NonIncr.varint _)

theorem AllocC.guard {c : Bool} {e : Err} {f : Unit → Dec β} {K : Nat} (h : c = true → AllocC K (f ())) :
    AllocC K (Dec.bind (C32.guardD c e) f) := by
  intro b
  rw [bind_guardD]
  cases c
  · exact Nat.zero_le _
  · exact h rfl b

theorem AllocB.guard {c : Bool} {e : Err} {f : Unit → Dec β} {B : Nat} (h : c = true → AllocB B (f ())) :
    AllocB B (Dec.bind (C32.guardD c e) f) := by
  intro b
  rw [bind_guardD]
  cases c
  · exact Nat.zero_le _
  · exact h rfl b

theorem Total.bytesLP (max : Nat) (mode : AllocMode) (s : Bool) : Total (bytesLP max mode s) := by
  simp only [C32.bytesLP, bind_eq, need_alloc_slice]
  exact Total.bind (Total.varint s) fun _ => Total.bind (Total.guardD _ _) fun _ =>
    Total.bind (Total.allocD _) fun _ => Total.takeD _ _ _

theorem Strict.bytesLP (max : Nat) (mode : AllocMode) (s : Bool) : Strict (bytesLP max mode s) := by
  simp only [C32.bytesLP, bind_eq, need_alloc_slice]
  exact Strict.bind (Strict.varint s) fun _ => NonIncr.bind (NonIncr.guardD _ _) fun _ =>
    NonIncr.bind (NonIncr.allocD _) fun _ => NonIncr.takeD _ _ _

theorem NonIncr.bytesLP (max : Nat) (mode : AllocMode) (s : Bool) : NonIncr (bytesLP max mode s) :=
  (Strict.bytesLP max mode s).nonIncr

/-- on success the returned bytes respect the limit -/
theorem bytesLP_le (max : Nat) (mode : AllocMode) (s : Bool) (b v r : Bytes)
    (h : (bytesLP max mode s b).r = .ok v r) : v.length ≤ max := by
  simp only [C32.bytesLP, bind_eq, need_alloc_slice] at h
  obtain ⟨n, _, _, h⟩ := bind_ok_inv h
  obtain ⟨_, _, hg, h⟩ := bind_ok_inv h
  obtain ⟨_, _, _, h⟩ := bind_ok_inv h
  rw [(takeD_ok h).1]
  exact of_decide_eq_true (guardD_ok hg).1

/-- the bytes made before the read are bounded by the limit, those copied after the check by the
input they consume; `Unmarshal`'s varint allocates nothing -/
theorem AllocB.bytesLP' (max : Nat) (mode : AllocMode) (s : Bool) :
    AllocB ((if s then 8 else 0) + if mode = .pre then max else 0) (bytesLP max mode s) := by
  simp only [C32.bytesLP, bind_eq, need_alloc_slice]
  refine AllocB.bind (AllocC.allocB (fun b => (varint_spec s b).2.1) (NonIncr.varint s)) fun n =>
    AllocB.guard fun hn => ?_
  have hn := of_decide_eq_true hn
  refine (AllocB.bind (AllocB.allocD _) fun _ => AllocB.takeD n _ (k := if mode == .post then n else 0)
    (by split <;> omega)).mono ?_
  cases mode <;> simp <;> omega

theorem AllocB.bytesLP (max : Nat) (mode : AllocMode) (s : Bool) :
    AllocB (8 + if mode = .pre then max else 0) (bytesLP max mode s) :=
  (AllocB.bytesLP' max mode s).mono (Nat.add_le_add_right (by cases s <;> decide) _)

theorem AllocB.bytesLP0 (max : Nat) (mode : AllocMode) (hm : mode ≠ .pre := by decide) :
    AllocB 0 (C32.bytesLP max mode false) :=
  (AllocB.bytesLP' max mode false).mono (by rw [if_neg hm]; decide)

theorem AllocC.bytesLP (max : Nat) (s : Bool) : AllocC (8 + max) (bytesLP max .pre s) := by
  simp only [C32.bytesLP, bind_eq, need_alloc_slice]
  exact AllocC.bind (AllocC.varint s) fun n => AllocC.guard fun hn =>
    (AllocC.bind (AllocC.allocD _) fun _ => AllocC.takeD _ _ _).mono (of_decide_eq_true hn)

/-- round trip of a length-prefixed byte string -/
theorem bytesLP_roundtrip (max : Nat) (mode : AllocMode) (stream : Bool) (v tail : Bytes)
    (h1 : v.length ≤ max) (h2 : v.length < 2 ^ 64) :
    (bytesLP max mode stream (encBytesLP v ++ tail)).r = .ok v tail := by
  simp only [C32.bytesLP, bind_eq, need_alloc_slice, encBytesLP, List.append_assoc]
  rw [bind_ok (varint_rt stream _ h2 _), bind_guardD_pos (decide_eq_true h1), bind_ok (allocD_r _ _)]
  exact takeD_rt _ _ rfl tail

theorem repeatN_ind {P : ∀ {β : Type}, Dec β → Prop} (hp : ∀ {β : Type} (v : β), P (Dec.pure v))
    (hb : ∀ {β γ : Type} {d : Dec β} {f : β → Dec γ}, P d → (∀ v, P (f v)) → P (Dec.bind d f))
    {d : Dec α} (h : P d) : ∀ n, P (repeatN d n)
  | 0 => hp _
  | k + 1 => hb h fun _ => hb (repeatN_ind hp hb h k) fun _ => hp _

theorem Total.repeatN {d : Dec α} (h : Total d) (n : Nat) : Total (repeatN d n) :=
  repeatN_ind (P := Total) Total.pure Total.bind h n
theorem NonIncr.repeatN {d : Dec α} (h : NonIncr d) (n : Nat) : NonIncr (repeatN d n) :=
  repeatN_ind (P := NonIncr) NonIncr.pure NonIncr.bind h n
theorem AllocB.repeatN {d : Dec α} (h : AllocB 0 d) (n : Nat) : AllocB 0 (repeatN d n) :=
  repeatN_ind (P := AllocB 0) AllocB.pure AllocB.bindPaid h n

theorem repeatN_rt {e : α → Bytes} {d : Dec α} {wf : α → Prop} (h : RT e d wf) (l : List α)
    (hl : ∀ x ∈ l, wf x) (tail : Bytes) :
    (repeatN d l.length (l.flatMap e ++ tail)).r = .ok l tail := by
  induction l with
  | nil => rfl
  | cons x xs ih =>
    simp only [List.length_cons, C32.repeatN, bind_eq, pure_eq, List.flatMap_cons, List.append_assoc]
    rw [bind_ok (h x _ (hl x List.mem_cons_self)),
      bind_ok (ih fun y hy => hl y (List.mem_cons_of_mem _ hy))]
    rfl

/-- on success `repeatN` returns exactly `n` elements -/
theorem repeatN_length {d : Dec α} : ∀ (n : Nat) (b : Bytes) (v : List α) (r : Bytes),
    (repeatN d n b).r = .ok v r → v.length = n
  | 0, _, _, _, h => by cases h; rfl
  | k + 1, b, v, r, h => by
    simp only [C32.repeatN, bind_eq, pure_eq] at h
    obtain ⟨x, m, _, h⟩ := bind_ok_inv h
    obtain ⟨xs, m', hxs, h⟩ := bind_ok_inv h
    cases h
    exact congrArg (· + 1) (repeatN_length k m xs _ hxs)

theorem Total.listLP (max sz : Nat) {d : Dec α} (h : Total d) : Total (listLP max sz d) :=
  Total.bind (Total.varint _) fun _ => Total.bind (Total.guardD _ _) fun _ =>
    Total.bind (Total.allocD _) fun _ => Total.repeatN h _

theorem NonIncr.listLP (max sz : Nat) {d : Dec α} (h : NonIncr d) : NonIncr (listLP max sz d) :=
  NonIncr.bind (NonIncr.varint _) fun _ => NonIncr.bind (NonIncr.guardD _ _) fun _ =>
    NonIncr.bind (NonIncr.allocD _) fun _ => NonIncr.repeatN h _

/-- the `make([]T, count)` of a counted list is bounded because the count check precedes it -/
theorem AllocB.listLP (max sz : Nat) {d : Dec α} (h : AllocB 0 d) :
    AllocB (sz * max) (listLP max sz d) :=
  AllocB.bindPaid AllocB.varint0 fun _ => AllocB.guard fun hn =>
    (AllocB.bind (AllocB.allocD _) fun _ => AllocB.repeatN h _).mono
      (Nat.mul_le_mul_left _ (of_decide_eq_true hn))

theorem listLP_roundtrip (max sz : Nat) {e : α → Bytes} {d : Dec α} {wf : α → Prop} (h : RT e d wf) :
    RT (encListLP e) (listLP max sz d) (fun l => l.length ≤ max ∧ l.length < 2 ^ 64 ∧ ∀ x ∈ l, wf x) := by
  intro l tail ⟨h1, h2, h3⟩
  simp only [C32.listLP, bind_eq, encListLP, List.append_assoc]
  rw [bind_ok (varint_rt false _ h2 _), bind_guardD_pos (decide_eq_true h1), bind_ok (allocD_r _ _)]
  exact repeatN_rt h l h3 tail

theorem listLP_le (max sz : Nat) {d : Dec α} (b : Bytes) (v : List α) (r : Bytes)
    (h : (listLP max sz d b).r = .ok v r) : v.length ≤ max := by
  simp only [C32.listLP, bind_eq] at h
  obtain ⟨n, _, _, h⟩ := bind_ok_inv h
  obtain ⟨_, _, hg, h⟩ := bind_ok_inv h
  obtain ⟨_, _, _, h⟩ := bind_ok_inv h
  rw [repeatN_length n _ v r h]
  exact of_decide_eq_true (guardD_ok hg).1

theorem Total.pair {d1 : Dec α} {d2 : Dec β} (h1 : Total d1) (h2 : Total d2) : Total (pair d1 d2) :=
  Total.bind h1 fun _ => Total.bind h2 fun _ => Total.pure _

theorem NonIncr.pair {d1 : Dec α} {d2 : Dec β} (h1 : NonIncr d1) (h2 : NonIncr d2) :
    NonIncr (pair d1 d2) :=
  NonIncr.bind h1 fun _ => NonIncr.bind h2 fun _ => NonIncr.pure _

theorem AllocB.pair {d1 : Dec α} {d2 : Dec β} {B1 B2 : Nat} (h1 : AllocB B1 d1) (h2 : AllocB B2 d2) :
    AllocB (B1 + B2) (pair d1 d2) :=
  AllocB.bind h1 fun _ => AllocB.bind h2 fun _ => AllocB.pure _

theorem AllocC.pair {d1 : Dec α} {d2 : Dec β} {K1 K2 : Nat} (h1 : AllocC K1 d1) (h2 : AllocC K2 d2) :
    AllocC (K1 + K2) (pair d1 d2) :=
  AllocC.bind h1 fun _ => AllocC.bind h2 fun _ => AllocC.pure _

theorem pair_ok {d1 : Dec α} {d2 : Dec β} {b : Bytes} {a : α} {p : β} {r : Bytes}
    (h : (pair d1 d2 b).r = .ok (a, p) r) : ∃ r1, (d1 b).r = .ok a r1 ∧ (d2 r1).r = .ok p r := by
  obtain ⟨_, r1, h1, h⟩ := bind_ok_inv h
  obtain ⟨_, _, h2, h⟩ := bind_ok_inv h
  cases h
  exact ⟨r1, h1, h2⟩

theorem pair_roundtrip {e1 : α → Bytes} {e2 : β → Bytes} {d1 : Dec α} {d2 : Dec β} {w1 : α → Prop}
    {w2 : β → Prop} (h1 : RT e1 d1 w1) (h2 : RT e2 d2 w2) :
    RT (fun p => e1 p.1 ++ e2 p.2) (pair d1 d2) (fun p => w1 p.1 ∧ w2 p.2) := by
  intro p tail ⟨ha, hb⟩
  simp only [C32.pair, bind_eq, pure_eq, List.append_assoc]
  rw [bind_ok (h1 p.1 _ ha), bind_ok (h2 p.2 _ hb)]
  rfl

theorem Total.tagged {tag : Dec τ} {sel : τ → Option (Dec α)} (h1 : Total tag)
    (h2 : ∀ t d, sel t = some d → Total d) : Total (tagged tag sel) := by
  refine Total.bind h1 fun t => ?_
  cases h : sel t with
  | none => exact Total.fail _
  | some d => exact h2 t d h

theorem AllocC.tagged {tag : Dec τ} {sel : τ → Option (Dec α)} {K1 K2 : Nat} (h1 : AllocC K1 tag)
    (h2 : ∀ t d, sel t = some d → AllocC K2 d) : AllocC (K1 + K2) (tagged tag sel) := by
  refine AllocC.bind h1 fun t => ?_
  cases h : sel t with
  | none => exact (AllocC.fail _).mono (Nat.zero_le _)
  | some d => exact h2 t d h

/-- round trip of a tagged union: the tag of `v` selects a decoder that round-trips `v` -/
theorem tagged_roundtrip {tag : Dec τ} {sel : τ → Option (Dec α)} {etag : τ → Bytes} {wt : τ → Prop}
    (ht : RT etag tag wt) (t : τ) (d : Dec α) (hs : sel t = some d) (hw : wt t)
    (body : Bytes) (v : α) (tail : Bytes) (hd : (d (body ++ tail)).r = .ok v tail) :
    (tagged tag sel (etag t ++ body ++ tail)).r = .ok v tail := by
  simp only [C32.tagged, bind_eq, List.append_assoc]
  rw [bind_ok (ht t _ hw), hs]
  exact hd

end MtxVerif.C32
