/-
C29 — what recordstore.FindSegments keeps of a recording whose segments are strictly sorted by start, and that it drops
nothing recorded inside the requested interval.
-/
import MtxVerif.Lemmas.C29Core
import MtxVerif.Lemmas.SortedPrefix

namespace MtxVerif.C29

/-- strictly increasing starts (file names are distinct; the list is what sort.Slice returns) -/
def Strict : List Seg → Prop
  | [] => True
  | [_] => True
  | a :: b :: r => a.start < b.start ∧ Strict (b :: r)

theorem Strict.pairwise : ∀ {l : List Seg}, Strict l → l.Pairwise (fun a b => a.start < b.start)
  | [], _ => .nil
  | [_], _ => List.pairwise_singleton _ _
  | a :: b :: r, ⟨hab, h⟩ => by
    have ih := Strict.pairwise h
    refine .cons (fun x hx => ?_) ih
    rcases List.mem_cons.mp hx with rfl | hx
    · exact hab
    · exact Int.lt_trans hab (List.rel_of_pairwise_cons ih hx)

theorem WF.fin_pairwise : ∀ {l : List Seg}, WF l → l.Pairwise (fun a b => a.fin ≤ b.fin)
  | [], _ => .nil
  | _ :: _, h => .cons (fun x hx => (h.mono x hx).2) h.tail.fin_pairwise

theorem insertSeg_head {a : Seg} : ∀ {r : List Seg}, (∀ x ∈ r, a.start < x.start) → insertSeg a r = a :: r
  | [], _ => rfl
  | _ :: _, h => by rw [insertSeg, if_pos (h _ List.mem_cons_self)]

/-- sorting a strictly sorted list changes nothing -/
theorem sortSegs_id : ∀ {l : List Seg}, l.Pairwise (fun a b => a.start < b.start) → sortSegs l = l
  | [], _ => rfl
  | a :: r, h => by
    obtain ⟨ha, hr⟩ := List.pairwise_cons.mp h
    rw [sortSegs, List.foldr_cons, ← sortSegs, sortSegs_id hr, insertSeg_head ha]

/-- when no adjacent pair brackets `st`, every segment starts at or before `st` -/
theorem dropBefore_none (st : Int) : ∀ (l : List Seg) (a : Seg), a.start ≤ st → dropBefore st (a :: l) = none →
    ∀ x ∈ a :: l, x.start ≤ st
  | [], a, ha, _, x, hx => List.mem_singleton.mp hx ▸ ha
  | b :: t, a, ha, h, x, hx => by
    rw [dropBefore] at h
    split at h
    · cases h
    · rename_i hc
      rcases List.mem_cons.mp hx with rfl | hx
      · exact ha
      · exact dropBefore_none st t b (by omega) h x hx

/-- **selection**: what FindSegments keeps of a strictly sorted list.  `none` only if every segment starts after
`fin`; otherwise the segments starting at or before `fin`, without those before the one that contains `st` (or
before the last one when all start at or before `st`). -/
theorem findSegments_spec (segs : List Seg) (st fin : Int) (hs : Strict segs) :
    match findSegments segs (some st) (some fin) with
    | none => ∀ x ∈ segs, fin < x.start
    | some r => ∃ pre a tl post, r = a :: tl ∧ segs = pre ++ r ++ post ∧ (∀ x ∈ post, fin < x.start) ∧
        (∀ x ∈ r, x.start ≤ fin) ∧ (∀ x ∈ tl, st < x.start) ∧ (pre ≠ [] → a.start ≤ st) := by
  -- the `end` filter keeps a prefix: what it drops starts after `fin`
  have e1 := (filter_split (fun s : Seg => decide (s.start ≤ fin)) hs.pairwise fun a b hab hb =>
    decide_eq_true (Int.le_trans (Int.le_of_lt hab) (of_decide_eq_true hb))).symm
  have e2 : ∀ x ∈ segs.filter (fun s => !decide (s.start ≤ fin)), fin < x.start := fun x hx => by
    simpa using (List.mem_filter.mp hx).2
  generalize segs.filter (fun s => !decide (s.start ≤ fin)) = post at e1 e2
  have hpF := hs.pairwise.filter (fun s => decide (s.start ≤ fin))
  have e3 : ∀ x ∈ segs.filter (fun s => decide (s.start ≤ fin)), x.start ≤ fin := fun x hx => by
    simpa using (List.mem_filter.mp hx).2
  unfold findSegments
  simp only []
  generalize segs.filter (fun s => decide (s.start ≤ fin)) = F at e1 e3 hpF
  rw [sortSegs_id hpF]
  cases F with
  | nil => exact fun x hx => e2 x (by rwa [e1] at hx)
  | cons a t =>
    obtain ⟨hat, hpt⟩ := List.pairwise_cons.mp hpF
    simp only [List.isEmpty_cons, List.head?_cons, Bool.false_eq_true, if_false]
    by_cases hlt : st < a.start
    · -- `st` is before the first segment: everything is kept
      rw [if_pos hlt]
      exact ⟨[], a, t, post, rfl, e1, e2, e3, fun x hx => Int.lt_trans hlt (hat x hx), fun h => absurd rfl h⟩
    · have ha : a.start ≤ st := Int.not_lt.mp hlt
      rw [if_neg hlt]
      cases hdb : dropBefore st (a :: t) with
      | some r =>
        -- an adjacent pair brackets `st`
        obtain ⟨pre, a', b', t', d1, rfl, d3, d4⟩ := dropBefore_spec st (a :: t) r hdb
        refine ⟨pre, a', b' :: t', post, rfl, by rw [e1, d1], e2, fun x hx => e3 x (d1 ▸ List.mem_append_right _ hx),
          fun x hx => ?_, fun _ => d3⟩
        have hb := (List.pairwise_cons.mp (List.pairwise_cons.mp (List.pairwise_append.mp (d1 ▸ hpF)).2.1).2).1
        rcases List.mem_cons.mp hx with rfl | hx
        · exact d4
        · exact Int.lt_trans d4 (hb x hx)
      | none =>
        -- all segments start at or before `st`: only the last one is kept
        have hall := dropBefore_none st t a ha hdb
        have hz := List.getLast_mem (List.cons_ne_nil a t)
        rw [List.getLast?_eq_some_getLast (List.cons_ne_nil a t)]
        simp only []
        rw [if_neg (Int.not_lt.mpr (hall _ hz))]
        refine ⟨(a :: t).dropLast, _, [], post, rfl, ?_, e2, fun x hx => ?_, nofun, fun _ => hall _ hz⟩
        · rw [e1, List.dropLast_concat_getLast]
        · exact e3 x (List.mem_singleton.mp hx ▸ hz)

/-- FindSegments drops nothing recorded in [st, fin]: an instant of that interval that lies in a recorded segment
lies in a kept one.  (A dropped earlier segment ends no later than the first kept one, which starts at or before
`st`.) -/
theorem findSegments_cover {segs pre r post : List Seg} {a : Seg} {tl : List Seg} {st fin : Int} (hwf : WF segs)
    (hr : r = a :: tl) (hsplit : segs = pre ++ r ++ post) (hpost : ∀ x ∈ post, fin < x.start)
    (hhead : pre ≠ [] → a.start ≤ st) :
    ∀ s ∈ segs, ∀ t, s.start ≤ t → t ≤ s.fin → st ≤ t → t ≤ fin →
      ∃ s' ∈ r, s'.start ≤ t ∧ t ≤ s'.fin := by
  intro s hs t h1 h2 h3 h4
  subst hr hsplit
  rcases List.mem_append.mp hs with hs | hs
  · rcases List.mem_append.mp hs with hp | hr
    · have ha := hhead (List.ne_nil_of_mem hp)
      have := (List.pairwise_append.mp (List.pairwise_append.mp hwf.fin_pairwise).1).2.2 s hp a List.mem_cons_self
      exact ⟨a, List.mem_cons_self, by omega, by omega⟩
    · exact ⟨s, hr, h1, h2⟩
  · have := hpost s hs
    omega

end MtxVerif.C29
