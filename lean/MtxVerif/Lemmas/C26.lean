/-
C26 — helper lemmas about the matcher (`allM`): it enumerates exactly the decompositions
`s = render toks caps ++ rest` with well-shaped captures.
-/
import MtxVerif.Model.C26

namespace MtxVerif.C26

/-! ### one capture group: `cands k s` lists the ways to cut a text admitted by `capOK k` off `s` -/

theorem mem_splitsNL (s a b : Bytes) :
    (a, b) ∈ splitsNL s ↔ a.all (· != 10) = true ∧ s = a ++ b := by
  induction s generalizing a with
  | nil => simp [splitsNL]; rintro rfl -; simp
  | cons c r ih =>
    rw [splitsNL, List.mem_cons, List.mem_ite_nil_left, List.mem_map]
    cases a with
    | nil => simp [eq_comm]
    | cons x a =>
      simp only [Prod.mk.injEq, reduceCtorEq, false_and, false_or, List.all_cons, Bool.and_eq_true, bne_iff_ne,
        List.cons_append, List.cons.injEq]
      constructor
      · rintro ⟨hc, ⟨a', b'⟩, hm, ⟨rfl, rfl⟩, rfl⟩
        obtain ⟨ha, rfl⟩ := (ih a').mp hm
        exact ⟨⟨hc, ha⟩, rfl, rfl⟩
      · rintro ⟨⟨hc, ha⟩, rfl, rfl⟩
        exact ⟨hc, (a, b), (ih a).mpr ⟨ha, rfl⟩, ⟨rfl, rfl⟩, rfl⟩

/-- kinds matched by `[0-9]{n}` -/
def Kind.isNum : Kind → Bool
  | .path => false
  | .z => false
  | _ => true

theorem eq_z_of_not_num {k : Kind} (hk : k ≠ .path) (hn : k.isNum = false) : k = .z := by
  cases k <;> first | rfl | exact absurd rfl hk | cases hn

theorem capOK_num {k : Kind} (hk : k.isNum = true) (v : Bytes) :
    capOK k v = (v.length == k.width && v.all isDigit) := by
  cases k <;> first | rfl | cases hk

theorem cands_num {k : Kind} (hk : k.isNum = true) (s : Bytes) :
    cands k s = if k.width ≤ s.length ∧ (s.take k.width).all isDigit then [(s.take k.width, s.drop k.width)] else [] := by
  cases k <;> first | rfl | cases hk

theorem zoneOK_Z (r : Bytes) : zoneOK (90 :: r) = r.isEmpty := by
  cases r <;> rfl

theorem zoneOK_sign {c : UInt8} (hc : c ≠ 90) (r : Bytes) :
    zoneOK (c :: r) = ((c == 43 || c == 45) && r.length == 4 && r.all isDigit) := by
  rw [zoneOK]
  intro h _
  exact hc h

/-- the candidates of a group other than `(.*?)` are admissible cuts of the text … -/
theorem cands_sound {k : Kind} (hk : k ≠ .path) {s v r : Bytes} (h : (v, r) ∈ cands k s) :
    capOK k v = true ∧ s = v ++ r := by
  cases hn : k.isNum
  · obtain rfl := eq_z_of_not_num hk hn
    cases s with
    | nil => cases h
    | cons c t =>
      rw [cands] at h
      by_cases hc : c = 90
      · subst hc
        rw [if_pos rfl, List.mem_singleton, Prod.mk.injEq] at h
        obtain ⟨rfl, rfl⟩ := h
        exact ⟨rfl, rfl⟩
      · rw [if_neg hc, List.mem_ite_nil_right, List.mem_singleton, Prod.mk.injEq] at h
        obtain ⟨⟨hs, hl, hd⟩, rfl, rfl⟩ := h
        rw [capOK, zoneOK_sign hc, List.length_take_of_le hl, List.cons_append, List.take_append_drop]
        simp only [Bool.and_eq_true, Bool.or_eq_true, beq_iff_eq]
        exact ⟨⟨⟨hs, trivial⟩, hd⟩, trivial⟩
  · rw [cands_num hn, List.mem_ite_nil_right, List.mem_singleton, Prod.mk.injEq] at h
    obtain ⟨⟨hl, hd⟩, rfl, rfl⟩ := h
    rw [capOK_num hn, List.length_take_of_le hl, beq_self_eq_true, hd]
    exact ⟨rfl, (List.take_append_drop _ _).symm⟩

/-- … and an admissible text at the head of a text is its only candidate: these groups match a fixed
number of bytes (the zone group one or five, told apart by the first byte). -/
theorem cands_det {k : Kind} (hk : k ≠ .path) {v : Bytes} (hok : capOK k v = true) (r : Bytes) :
    cands k (v ++ r) = [(v, r)] := by
  cases hn : k.isNum
  · obtain rfl := eq_z_of_not_num hk hn
    cases v with
    | nil => cases hok
    | cons c v =>
      rw [List.cons_append, cands]
      by_cases hc : c = 90
      · subst hc
        rw [capOK, zoneOK_Z, List.isEmpty_iff] at hok
        rw [if_pos rfl, hok]; rfl
      · rw [capOK, zoneOK_sign hc] at hok
        simp only [Bool.and_eq_true, Bool.or_eq_true, beq_iff_eq] at hok
        rw [if_neg hc, List.take_left' hok.1.2, List.drop_left' hok.1.2,
          if_pos ⟨hok.1.1, by rw [List.length_append, hok.1.2]; exact Nat.le_add_right _ _, hok.2⟩]
  · rw [capOK_num hn, Bool.and_eq_true, beq_iff_eq] at hok
    rw [cands_num hn, List.take_left' hok.1, List.drop_left' hok.1,
      if_pos ⟨by rw [List.length_append, hok.1]; exact Nat.le_add_right _ _, hok.2⟩]

theorem mem_cands (k : Kind) (s v r : Bytes) :
    (v, r) ∈ cands k s ↔ capOK k v = true ∧ s = v ++ r := by
  by_cases hk : k = .path
  · subst hk; exact mem_splitsNL s v r
  · exact ⟨cands_sound hk, fun ⟨hok, e⟩ => by rw [e, cands_det hk hok]; exact List.mem_singleton.mpr rfl⟩

theorem fits_nil {cs : Caps} : fits [] cs = true ↔ cs = [] := by
  cases cs <;> simp [fits]

theorem fits_cap {k : Kind} {ts : List Tok} {cs : Caps} :
    fits (.cap k :: ts) cs = true ↔ ∃ v cs', cs = (k, v) :: cs' ∧ capOK k v = true ∧ fits ts cs' = true := by
  cases cs with
  | nil => simp [fits]
  | cons c cs' =>
    obtain ⟨k', v⟩ := c
    by_cases hk : k' = k
    · simp [fits, hk, and_assoc]
    · simp [fits, hk]

/-- `allM` enumerates exactly the decompositions of `s` into a text matching the tokens plus a rest. -/
theorem mem_allM (toks : List Tok) (s : Bytes) (cs : Caps) (r : Bytes) :
    (cs, r) ∈ allM toks s ↔ fits toks cs = true ∧ s = render toks cs ++ r := by
  induction toks generalizing s cs r with
  | nil =>
    rw [allM, List.mem_singleton, Prod.mk.injEq, fits_nil, render, List.nil_append, eq_comm (a := r)]
  | cons t ts ih =>
    cases t with
    | lit b =>
      cases s with
      | nil => simp [allM, render]
      | cons c s' =>
        rw [allM, fits, render, List.cons_append, List.cons.injEq]
        by_cases hbc : b = c
        · rw [if_pos hbc, ih]; simp [hbc]
        · rw [if_neg hbc]; simp [Ne.symm hbc]
    | cap k =>
      -- a candidate value `v` with rest `r1`, then a decomposition of `r1` along the remaining tokens
      simp only [allM, List.mem_flatMap, List.mem_map, Prod.exists, Prod.mk.injEq, mem_cands, ih, fits_cap]
      constructor
      · rintro ⟨v, _, ⟨hok, rfl⟩, cs1, _, ⟨hf, rfl⟩, rfl, rfl⟩
        exact ⟨⟨v, cs1, rfl, hok, hf⟩, by rw [render, List.append_assoc]⟩
      · rintro ⟨⟨v, cs1, rfl, hok, hf⟩, rfl⟩
        exact ⟨v, _, ⟨hok, by rw [render, List.append_assoc]⟩, cs1, r, ⟨hf, rfl⟩, rfl, rfl⟩

theorem capsOf_lit (b : UInt8) (ts : List Tok) (A : Kind → Bytes) :
    capsOf (.lit b :: ts) A = capsOf ts A := rfl

theorem capsOf_cap (k : Kind) (ts : List Tok) (A : Kind → Bytes) :
    capsOf (.cap k :: ts) A = (k, A k) :: capsOf ts A := rfl

theorem fits_capsOf_iff (toks : List Tok) (A : Kind → Bytes) :
    fits toks (capsOf toks A) = true ↔ ∀ k, Tok.cap k ∈ toks → capOK k (A k) = true := by
  induction toks with
  | nil => simp [capsOf, fits]
  | cons t ts ih =>
    cases t with
    | lit b => rw [capsOf_lit, fits, ih]; simp
    | cap k => rw [capsOf_cap, fits]; simp [ih]

theorem render_capsOf (toks : List Tok) (A : Kind → Bytes) :
    render toks (capsOf toks A) = encodeA toks A := by
  induction toks with
  | nil => rfl
  | cons t ts ih =>
    cases t with
    | lit b => rw [capsOf_lit, render, ih]; rfl
    | cap k => rw [capsOf_cap, render, ih]; rfl

/-- well-shaped captures that agree with an assignment are the captures of that assignment. -/
theorem fits_eq_capsOf (toks : List Tok) (cs : Caps) (A : Kind → Bytes)
    (hf : fits toks cs = true) (hA : ∀ c ∈ cs, c.2 = A c.1) : cs = capsOf toks A := by
  induction toks generalizing cs with
  | nil => exact fits_nil.mp hf
  | cons t ts ih =>
    cases t with
    | lit b => exact ih cs hf hA
    | cap k =>
      obtain ⟨v, cs1, rfl, -, hf⟩ := fits_cap.mp hf
      rw [capsOf_cap, ← ih cs1 hf (fun c hc => hA c (List.mem_cons_of_mem _ hc)),
        ← hA (k, v) List.mem_cons_self]

theorem hasKind_cons_lit (k : Kind) (b : UInt8) (ts : List Tok) : hasKind k (.lit b :: ts) = hasKind k ts := by
  simp [hasKind]

theorem hasKind_cons_cap (k k' : Kind) (ts : List Tok) :
    hasKind k (.cap k' :: ts) = (decide (k = k') || hasKind k ts) := by
  simp [hasKind]

theorem lastCap_capsOf_eq (toks : List Tok) (A : Kind → Bytes) (k : Kind) :
    lastCap k (capsOf toks A) = if hasKind k toks then some (A k) else none := by
  induction toks with
  | nil => rfl
  | cons t ts ih =>
    cases t with
    | lit b => rw [capsOf_lit, ih, hasKind_cons_lit]
    | cap k' =>
      rw [capsOf_cap, lastCap, ih, hasKind_cons_cap]
      cases hasKind k ts
      · by_cases hk : k' = k
        · simp [hk]
        · simp [hk, Ne.symm hk]
      · simp

theorem lastCap_capsOf (toks : List Tok) (A : Kind → Bytes) (k : Kind) (hk : Tok.cap k ∈ toks) :
    lastCap k (capsOf toks A) = some (A k) := by
  rw [lastCap_capsOf_eq, if_pos (by simpa [hasKind] using hk)]

theorem consistent_capsOf (toks : List Tok) (A : Kind → Bytes) : consistent (capsOf toks A) = true := by
  rw [consistent, List.all_eq_true]
  intro c hc
  obtain ⟨t, ht, h⟩ := List.mem_filterMap.mp hc
  cases t with
  | lit b => cases h
  | cap k =>
    cases h
    rw [lastCap_capsOf toks A k ht]
    exact beq_self_eq_true _

/-- coherent captures agree with the assignment "last capture of each kind". -/
theorem consistent_agree (cs : Caps) (h : consistent cs = true) :
    ∀ c ∈ cs, c.2 = (fun k => (lastCap k cs).getD []) c.1 := by
  intro c hc
  rw [consistent, List.all_eq_true] at h
  show c.2 = (lastCap c.1 cs).getD []
  rw [beq_iff_eq.mp (h c hc)]
  rfl

/-- the last byte of a zone text tells its length: `Z` alone, or a sign and four digits. -/
theorem zoneOK_len {v : Bytes} (h : zoneOK v = true) : v.length = if v.getLast? = some 90 then 1 else 5 := by
  cases v with
  | nil => cases h
  | cons c r =>
    by_cases hc : c = 90
    · subst hc
      rw [zoneOK_Z, List.isEmpty_iff] at h
      subst h
      rfl
    · rw [zoneOK_sign hc] at h
      simp only [Bool.and_eq_true, beq_iff_eq, List.all_eq_true] at h
      obtain ⟨⟨-, hl⟩, hd⟩ := h
      rw [List.length_cons, hl, if_neg]
      intro e
      cases r with
      | nil => cases hl
      | cons d r => exact absurd (hd 90 (List.mem_of_getLast? (List.getLast?_cons_cons ▸ e))) (by decide)

theorem capOK_len {k : Kind} (hk : k ≠ .path) {v v' : Bytes} (h : capOK k v = true) (h' : capOK k v' = true)
    (hh : v.getLast? = v'.getLast?) : v.length = v'.length := by
  cases hn : k.isNum
  · obtain rfl := eq_z_of_not_num hk hn
    rw [zoneOK_len h, zoneOK_len h', hh]
  · rw [capOK_num hn, Bool.and_eq_true, beq_iff_eq] at h h'
    rw [h.1, h'.1]

theorem capOK_ne_nil {k : Kind} (hk : k ≠ .path) {v : Bytes} (h : capOK k v = true) : v ≠ [] := by
  rintro rfl
  cases k <;> first | exact hk rfl | cases h

/-- read from the left, an admissible text is the only candidate … -/
theorem cap_left_inj {k : Kind} (hk : k ≠ .path) {v v' x x' : Bytes}
    (h : capOK k v = true) (h' : capOK k v' = true) (he : v ++ x = v' ++ x') : v = v' ∧ x = x' := by
  have hc := cands_det hk h x
  rw [he, cands_det hk h' x'] at hc
  cases hc
  exact ⟨rfl, rfl⟩

/-- … and read from the right, its last byte tells its length. -/
theorem cap_right_inj {k : Kind} (hk : k ≠ .path) {v v' a a' : Bytes}
    (h : capOK k v = true) (h' : capOK k v' = true) (he : a ++ v = a' ++ v') : a = a' ∧ v = v' := by
  refine List.append_inj' he (capOK_len hk h h' ?_)
  have := congrArg List.getLast? he
  rw [List.getLast?_append, List.getLast?_append] at this
  rw [List.getLast?_eq_some_getLast (capOK_ne_nil hk h), List.getLast?_eq_some_getLast (capOK_ne_nil hk h')]
    at this ⊢
  exact this

def pathFree (toks : List Tok) : Prop := ∀ t ∈ toks, t ≠ Tok.cap .path

theorem pathFree_cons {t : Tok} {ts : List Tok} (h : pathFree (t :: ts)) : t ≠ .cap .path ∧ pathFree ts :=
  ⟨h t List.mem_cons_self, fun t ht => h t (List.mem_cons_of_mem _ ht)⟩

theorem pathCount_cons_path (ts : List Tok) : pathCount (Tok.cap .path :: ts) = pathCount ts + 1 := by
  simp [pathCount]

theorem pathCount_le_cons (t : Tok) (ts : List Tok) : pathCount ts ≤ pathCount (t :: ts) :=
  ((List.sublist_cons_self t ts).filter _).length_le

theorem pathFree_of_count (toks : List Tok) (h : pathCount toks = 0) : pathFree toks := by
  rw [pathCount, List.length_eq_zero_iff, List.filter_eq_nil_iff] at h
  exact fun t ht e => h t ht (beq_iff_eq.mpr e)

/-- path-free token sequences parse deterministically from the right. -/
theorem render_right_inj (toks : List Tok) (hpf : pathFree toks) (cs cs' : Caps) (a a' : Bytes)
    (hf : fits toks cs = true) (hf' : fits toks cs' = true)
    (he : a ++ render toks cs = a' ++ render toks cs') : a = a' ∧ cs = cs' := by
  induction toks generalizing cs cs' a a' with
  | nil =>
    rw [fits_nil.mp hf, fits_nil.mp hf', render, List.append_nil, List.append_nil] at *
    exact ⟨he, rfl⟩
  | cons t ts ih =>
    obtain ⟨ht, hpf'⟩ := pathFree_cons hpf
    cases t with
    | lit b =>
      rw [render, render, List.append_cons a, List.append_cons a'] at he
      obtain ⟨h1, h2⟩ := ih hpf' cs cs' _ _ hf hf' he
      exact ⟨List.append_cancel_right h1, h2⟩
    | cap k =>
      obtain ⟨v, cs1, rfl, hok, hf⟩ := fits_cap.mp hf
      obtain ⟨v', cs1', rfl, hok', hf'⟩ := fits_cap.mp hf'
      rw [render, render, ← List.append_assoc, ← List.append_assoc] at he
      obtain ⟨h1, rfl⟩ := ih hpf' cs1 cs1' _ _ hf hf' he
      obtain ⟨h3, rfl⟩ := cap_right_inj (fun e => ht (e ▸ rfl)) hok hok' h1
      exact ⟨h3, rfl⟩

/-- **Uniqueness of the parse**: with at most one `%path`, a name has at most one decomposition along
the format (fixed-width fields; the zone text is determined by its first and by its last byte). -/
theorem render_inj (toks : List Tok) (h1 : pathCount toks ≤ 1) (cs cs' : Caps)
    (hf : fits toks cs = true) (hf' : fits toks cs' = true)
    (he : render toks cs = render toks cs') : cs = cs' := by
  induction toks generalizing cs cs' with
  | nil => rw [fits_nil.mp hf, fits_nil.mp hf']
  | cons t ts ih =>
    have h1' := Nat.le_trans (pathCount_le_cons t ts) h1
    cases t with
    | lit b => exact ih h1' cs cs' hf hf' (List.cons.inj he).2
    | cap k =>
      obtain ⟨v, cs1, rfl, hok, hf1⟩ := fits_cap.mp hf
      obtain ⟨v', cs1', rfl, hok', hf1'⟩ := fits_cap.mp hf'
      rw [render, render] at he
      by_cases hk : k = .path
      · -- what follows the only `%path` is read from the right end
        subst hk
        rw [pathCount_cons_path] at h1
        obtain ⟨rfl, rfl⟩ := render_right_inj ts (pathFree_of_count ts (by omega)) cs1 cs1' v v' hf1 hf1' he
        rfl
      · obtain ⟨rfl, h4⟩ := cap_left_inj hk hok hok' he
        rw [ih h1' cs1 cs1' hf1 hf1' h4]

theorem allM_det (toks : List Tok) (hpf : pathFree toks) (cs : Caps) (r : Bytes)
    (hf : fits toks cs = true) : allM toks (render toks cs ++ r) = [(cs, r)] := by
  induction toks generalizing cs with
  | nil => rw [fits_nil.mp hf]; rfl
  | cons t ts ih =>
    obtain ⟨ht, hpf'⟩ := pathFree_cons hpf
    cases t with
    | lit b => rw [render, List.cons_append, allM, if_pos rfl]; exact ih hpf' cs hf
    | cap k =>
      obtain ⟨v, cs1, rfl, hok, hf⟩ := fits_cap.mp hf
      rw [render, List.append_assoc, allM, cands_det (fun e => ht (e ▸ rfl)) hok, List.flatMap_singleton,
        ih hpf' cs1 hf]
      rfl

theorem search_head (toks : List Tok) (s : Bytes) (off : Nat) (cr : Caps × Bytes)
    (h : (allM toks s).head? = some cr) : search toks off s = some ⟨off, cr.1, cr.2⟩ := by
  cases s <;> simp [search, h]

theorem parseDec_append_single (l : Bytes) (c : UInt8) :
    parseDec (l ++ [c]) = parseDec l * 10 + (c.toNat - 48) := by
  simp [parseDec, List.foldl_append]

theorem digit_toNat (d : Nat) (h : d < 10) : (UInt8.ofNat (48 + d)).toNat - 48 = d := by
  rw [UInt8.toNat_ofNat']
  omega

theorem parseDec_natDecAux (fuel n : Nat) (h : n < 10 ^ fuel) : parseDec (natDecAux fuel n) = n := by
  induction fuel generalizing n with
  | zero => simp at h; subst h; rfl
  | succ f ih =>
    unfold natDecAux
    split
    · rename_i h10
      exact (parseDec_append_single [] _).trans (by rw [digit_toNat n h10]; exact Nat.zero_add n)
    · rw [parseDec_append_single, ih (n / 10) (by rw [Nat.pow_succ] at h; omega),
        digit_toNat (n % 10) (Nat.mod_lt _ (by decide))]
      omega

theorem parseDec_natDec (n : Nat) (h : n < 10 ^ 20) : parseDec (natDec n) = n :=
  parseDec_natDecAux 20 n h

theorem parseDec_zeros (k : Nat) (l : Bytes) : parseDec (List.replicate k 48 ++ l) = parseDec l := by
  induction k with
  | zero => simp
  | succ k ih =>
    rw [List.replicate_succ, List.cons_append]
    unfold parseDec at ih ⊢
    simpa using ih

theorem parseDec_leadingZeros (v w : Nat) (h : v < 10 ^ 20) : parseDec (leadingZeros v w) = v := by
  unfold leadingZeros
  simp only
  rw [parseDec_zeros, parseDec_natDec v h]

end MtxVerif.C26
