/-
Heap-model lemmas shared by C11 (copies are independent) and C07 (redaction is pure):
a write into a cell that does not occur in a value does not change the value, and how the cells a copy
allocates are numbered.
-/
import MtxVerif.Model.C11

namespace MtxVerif.C11

/-- all cells of `v` were allocated before `n` -/
def Below (n : Nat) (v : V) : Prop := ∀ l ∈ locs v, l < n

/-- a sequence of heap writes, as seen from value `v` -/
def applyWrites (ws : List (Nat × (V → V) × (Vs → Vs))) (v : V) : V :=
  ws.foldl (fun v w => mutate w.1 w.2.1 w.2.2 v) v

/-! #### a write into a cell that does not occur in a value does not change it

`mutate`, `locs`, `clone` … reduce by evaluation on a constructor, so the cases below are stated up to
definitional unfolding instead of rewriting with equation lemmas (slow to check for these mutual
definitions). -/

mutual
theorem mutate_noop (l : Nat) (fp : V → V) (fs : Vs → Vs) : ∀ v : V, l ∉ locs v → mutate l fp fs v = v
  | .atom _, _ => rfl
  | .ptr l' p, h =>
    (if_neg (List.ne_of_not_mem_cons h).symm).trans
      (congrArg (V.ptr l') (mutate_noop l fp fs p (List.not_mem_of_not_mem_cons h)))
  | .slice l' es, h =>
    (if_neg (List.ne_of_not_mem_cons h).symm).trans
      (congrArg (V.slice l') (mutateS_noop l fp fs es (List.not_mem_of_not_mem_cons h)))
  | .map l' es, h =>
    (if_neg (List.ne_of_not_mem_cons h).symm).trans
      (congrArg (V.map l') (mutateS_noop l fp fs es (List.not_mem_of_not_mem_cons h)))
  | .struct fds, h => congrArg V.struct (mutateS_noop l fp fs fds h)
  | .iface v, h => congrArg V.iface (mutate_noop l fp fs v h)
  | .other _, _ => rfl
theorem mutateS_noop (l : Nat) (fp : V → V) (fs : Vs → Vs) : ∀ vs : Vs, l ∉ locsS vs → mutateS l fp fs vs = vs
  | .nil, _ => rfl
  | .cons f k hd tl, h => by
    show Vs.cons f k (mutate l fp fs hd) (mutateS l fp fs tl) = _
    rw [mutate_noop l fp fs hd fun e => h (List.mem_append_left _ e),
      mutateS_noop l fp fs tl fun e => h (List.mem_append_right _ e)]
end

theorem mutate_above {n l : Nat} {v : V} (hb : Below n v) (hl : n ≤ l) (fp : V → V) (fs : Vs → Vs) :
    mutate l fp fs v = v :=
  mutate_noop l fp fs v fun hin => Nat.lt_irrefl l (Nat.lt_of_lt_of_le (hb l hin) hl)

theorem applyWrites_above {n : Nat} {v : V} (hb : Below n v) :
    ∀ ws : List (Nat × (V → V) × (Vs → Vs)), (∀ w ∈ ws, n ≤ w.1) → applyWrites ws v = v
  | [], _ => rfl
  | w :: ws, h => by
    show applyWrites ws (mutate w.1 w.2.1 w.2.2 v) = v
    rw [mutate_above hb (h w List.mem_cons_self)]
    exact applyWrites_above hb ws fun w' hw' => h w' (List.mem_cons_of_mem _ hw')

/-- the cells `ls` were allocated while the allocator went from `n` to `m` -/
def Fresh (n : Nat) (ls : List Nat) (m : Nat) : Prop := n ≤ m ∧ ∀ l ∈ ls, n ≤ l ∧ l < m

theorem Fresh.nil (n : Nat) : Fresh n [] n := ⟨Nat.le_refl n, fun _ h => nomatch h⟩

theorem Fresh.cons {n m : Nat} {ls : List Nat} (h : Fresh (n + 1) ls m) : Fresh n (n :: ls) m := by
  have := h.1
  refine ⟨by omega, fun l hl => ?_⟩
  rcases List.mem_cons.mp hl with rfl | hl
  · omega
  · have := h.2 l hl; omega

theorem Fresh.append {n k m : Nat} {xs ys : List Nat} (h1 : Fresh n xs k) (h2 : Fresh k ys m) :
    Fresh n (xs ++ ys) m := by
  have := h1.1
  have := h2.1
  refine ⟨by omega, fun l hl => ?_⟩
  rcases List.mem_append.mp hl with hl | hl
  · have := h1.2 l hl; omega
  · have := h2.2 l hl; omega

end MtxVerif.C11
