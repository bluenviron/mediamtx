/-
PathSM, hook pairs (C20): for each hook kind the start/stop events of the output trace alternate,
starting from the open/closed flag of the state and ending in the flag of the new state.
-/
import MtxVerif.Lemmas.C18Keeps

namespace MtxVerif.PathSM

/-- start (`true`) / stop (`false`) events of hook kind `h` in an output list -/
def hookEvents (h : Hook) (out : List Out) : List Bool :=
  out.filterMap fun o => match o with | .hook h' b => if h' = h then some b else none | _ => none

/-- run the two-state pair automaton: a start is only legal when closed, a stop only when open -/
def alt : Bool → List Bool → Option Bool
  | f, [] => some f
  | f, b :: bs => if b = f then none else alt b bs

@[simp] theorem hookEvents_nil (h : Hook) : hookEvents h [] = [] := rfl
@[simp] theorem hookEvents_append (h : Hook) (a b : List Out) :
    hookEvents h (a ++ b) = hookEvents h a ++ hookEvents h b := by simp [hookEvents]
@[simp] theorem hookEvents_cons (h : Hook) (o : Out) (l : List Out) :
    hookEvents h (o :: l) = (match o with | .hook h' b => if h' = h then [b] else [] | _ => []) ++ hookEvents h l := by
  cases o <;> first
    | rfl
    | (simp [hookEvents]; split <;> simp_all)

theorem alt_append (f : Bool) (a b : List Bool) : alt f (a ++ b) = (alt f a).bind (fun f' => alt f' b) := by
  induction a generalizing f with
  | nil => simp [alt]
  | cons x xs ih => simp only [List.cons_append, alt]; split <;> simp [ih]

/-- the outputs of the running step, read from flag `f0`, are a legal pair sequence ending in the
current flag -/
def HK (h : Hook) (f0 : Bool) (w : W) : Prop := alt f0 (hookEvents h w.out) = some (flag h w.s)

/-- helpers that emit no hook event and leave the three flags alone -/
def Quiet (f : W → W) : Prop :=
  ∀ w, (∀ h, hookEvents h (f w).out = hookEvents h w.out) ∧
    (f w).s.hkAvail = w.s.hkAvail ∧ (f w).s.hkOnline = w.s.hkOnline ∧ (f w).s.hkDemand = w.s.hkDemand

theorem Quiet.hk {f : W → W} (q : Quiet f) {h : Hook} {f0 : Bool} {w : W} (hk : HK h f0 w) : HK h f0 (f w) := by
  obtain ⟨a, b, c, d⟩ := q w
  unfold HK at *
  rw [a h]
  cases h <;> simp_all [flag]

theorem quiet_replyStream (rid : Nat) : Quiet (replyStream rid) := by
  intro w
  obtain ⟨k, e⟩ := replyStream_eq rid w
  rw [e]; simp
theorem quiet_addReaderPost (rid r : Nat) : Quiet (addReaderPost rid r) := by
  intro w
  obtain ⟨l, k, e, hl⟩ := addReaderPost_out rid r w
  have F := addReaderPost_frame rid r w
  refine ⟨fun h => ?_, (congrArg State.hkAvail F :), (congrArg State.hkOnline F :), (congrArg State.hkDemand F :)⟩
  rw [e]
  rcases hl with rfl | rfl | rfl <;> simp
theorem quiet_failHolds (k : ReplyKind) : Quiet (failHolds k) := by
  intro w
  have e : ∀ {α : Type} (id : α → Nat) (h : Hook) (l : List α), hookEvents h (l.map fun x => Out.reply (id x) k) = [] := by
    intro α id h l; induction l with
    | nil => rfl
    | cons x xs ih => simp [ih]
  simp [failHolds, e (fun rid : Nat => rid), e (fun x : Nat × Nat => x.1), upd]
theorem hk_upd {h : Hook} {f0 : Bool} {w : W} (f : State → State) (hk : HK h f0 w)
    (h1 : (f w.s).hkAvail = w.s.hkAvail) (h2 : (f w.s).hkOnline = w.s.hkOnline) (h3 : (f w.s).hkDemand = w.s.hkDemand) :
    HK h f0 (upd f w) := by
  unfold HK at *; cases h <;> simp_all [flag, upd]

theorem hk_consume {h : Hook} {f0 : Bool} {w : W} (hk : HK h f0 w) : HK h f0 (consumeOnHoldRequests w) :=
  consume_keeps (R := HK h f0) (fun _ _ => (quiet_replyStream _).hk) (fun _ _ _ => (quiet_addReaderPost _ _).hk)
    (fun _ hk => hk_upd _ hk rfl rfl rfl) (fun _ hk => hk_upd _ hk rfl rfl rfl) hk

theorem hk_emit {h : Hook} {f0 : Bool} {w : W} (o : Out) (hk : HK h f0 w) (ho : ∀ h' b, o ≠ .hook h' b) :
    HK h f0 (emit o w) := by
  unfold HK at *
  cases o <;> simp_all [flag, emit]

/-- executing hook `k` (`b`: start / stop) and recording it in the state: legal when the pair's flag flips -/
theorem hk_fire {h : Hook} {f0 : Bool} {w : W} (k : Hook) (b : Bool) (g : State → State) (hk : HK h f0 w)
    (hpre : flag k w.s = !b) (hg : ∀ h', flag h' (g w.s) = if h' = k then b else flag h' w.s) :
    HK h f0 (emit (.hook k b) (upd g w)) := by
  unfold HK at *
  rw [emit_out, upd_out, hookEvents_append, alt_append, hk, emit_s, upd_s, hg]
  by_cases e : k = h
  · subst e; cases b <;> simp_all [hookEvents, alt]
  · have e' : ¬ h = k := fun x => e x.symm
    simp [hookEvents, e, e', alt]

theorem keeps_hk (h : Hook) (f0 : Bool) : Keeps True (HK h f0) where
  plain o _ ho hk := hk_emit o hk (by rintro _ _ rfl; cases ho)
  frame f _ hf hk := by
    simp only [held, Prod.mk.injEq] at hf
    exact hk_upd f hk hf.2.2.1 hf.2.2.2.1 hf.2.2.2.2
  fire k b _ hpre hk := hk_fire k b _ hk (hpre trivial) (fun h' => by cases k <;> cases h' <;> rfl)

theorem hk_pubAttach {h : Hook} {f0 : Bool} (p : Nat) (ok : Bool) (w : W) (hk : HK h f0 w)
    (hpre : w.s.conf.alwaysAvailable = false → w.s.hkAvail = false) : HK h f0 (pubAttach p ok w) :=
  pubAttach_keeps (keeps_hk h f0) p ok (fun _ => hk_consume) (fun _ => hpre) hk

theorem hk_srcReady {h : Hook} {f0 : Bool} (ok : Bool) (w : W) (hk : HK h f0 w)
    (hpre : w.s.conf.alwaysAvailable = false → w.s.hkAvail = false) : HK h f0 (doSourceStaticSetReady ok w) :=
  srcReady_keeps (keeps_hk h f0) ok (fun _ => hk_consume) (fun _ => hpre) hk

theorem hk_doClose {h : Hook} {f0 : Bool} (w : W) (hk : HK h f0 w) : HK h f0 (doClose w) := by
  -- up to `closeSource` nothing touches the hooks; then the demand pair is closed if open, then `setNotAvailable`
  have rest : ∀ w1 : W, HK h f0 w1 → w1.s.hkDemand = w.s.hkDemand →
      HK h f0 (upd (fun s => { s with closed := true, srcSub := none })
        (if w.s.stream.isSome then setNotAvailable
          (if w.s.hkDemand then emit (.hook .demand false) (upd (fun s => { s with hkDemand := false }) w1) else w1)
        else if w.s.hkDemand then emit (.hook .demand false) (upd (fun s => { s with hkDemand := false }) w1) else w1)) := by
    intro w1 h1 e1
    have h2 : HK h f0 (if w.s.hkDemand then emit (.hook .demand false) (upd (fun s => { s with hkDemand := false }) w1) else w1) := by
      split
      · rename_i hd
        exact hk_fire .demand false _ h1 (e1.trans hd) (fun h' => by cases h' <;> rfl)
      · exact h1
    apply hk_upd _ _ rfl rfl rfl
    split
    · exact setNotAvailable_keeps (keeps_hk h f0) h2
    · exact h2
  exact rest _
    (closeSource_keeps (keeps_hk h f0) w.s ((quiet_failHolds _).hk (hk_upd _ (hk_emit _ hk (by intros; simp)) rfl rfl rfl)))
    (by rw [closeSource_s]; split <;> simp [srcStop_s, failHolds_s])

theorem hk_srcNotReady {h : Hook} {f0 : Bool} (w : W) (hk : HK h f0 w) : HK h f0 (doSourceStaticSetNotReady w) := by
  have K := keeps_hk h f0
  unfold doSourceStaticSetNotReady startOffline
  dsimp only
  have h0 : HK h f0 (if w.s.conf.alwaysAvailable = true then upd (fun s => { s with aaCur := none }) (setOffline w) else setNotAvailable w) := by
    split
    · exact hk_upd _ (setOffline_keeps K hk) rfl rfl rfl
    · exact setNotAvailable_keeps K hk
  generalize (if w.s.conf.alwaysAvailable = true then upd (fun s => { s with aaCur := none }) (setOffline w) else setNotAvailable w) = w1 at h0 ⊢
  split
  · exact onDemandStaticSourceStop_keeps K (hk_upd _ h0 rfl rfl rfl)
  · exact hk_upd _ h0 rfl rfl rfl

theorem hk_fireTimer {h : Hook} {f0 : Bool} (t : Timer) (w : W) (hk : HK h f0 w) : HK h f0 (fireTimer t w) := by
  have K := keeps_hk h f0
  cases t <;> unfold fireTimer <;> dsimp only
  · apply closeCheck_keeps K; unfold doOnDemandStaticSourceReadyTimer
    exact onDemandStaticSourceStop_keeps K ((quiet_failHolds _).hk (hk_upd _ hk rfl rfl rfl))
  · apply closeCheck_keeps K; unfold doOnDemandStaticSourceCloseTimer
    split
    · exact panic_keeps K (hk_upd _ hk rfl rfl rfl)
    · exact onDemandStaticSourceStop_keeps K (setNotAvailable_keeps K (hk_upd _ hk rfl rfl rfl))
  · apply closeCheck_keeps K; unfold doOnDemandPublisherReadyTimer
    exact onDemandPublisherStop_keeps K ((quiet_failHolds _).hk (hk_upd _ hk rfl rfl rfl))
  · unfold doOnDemandPublisherCloseTimer
    exact onDemandPublisherStop_keeps K (hk_upd _ hk rfl rfl rfl)

theorem hk_stepW {h : Hook} {f0 : Bool} (e : Event) (w : W) (hi : Inv w.s) (hk : HK h f0 w) :
    HK h f0 (stepW e w) := by
  have silent : ∀ o : Out, (∀ h' b, o ≠ .hook h' b) → HK h f0 (emit o w) := fun o ho => hk_emit o hk ho
  -- before `setAvailable` runs the runOnReady pair is closed: a path that nobody feeds has no stream
  have unfed : ∀ {s : State}, Inv s → (s.conf.kind = .publisher ∧ s.source = none) ∨ (s.conf.kind = .static ∧ s.srcUp = false) →
      s.conf.alwaysAvailable = false → s.hkAvail = false := by
    intro s i hs haa; rw [i.avail.hkA, i.unfed haa hs]; rfl
  -- before `onDemandPublisherStart` runs the runOnDemand pair is closed
  have hdem : w.s.closed = false → w.s.conf.odStatic = false → w.s.odPub = .initial → w.s.hkDemand = false := by
    intro hc _ h0
    cases hd : w.s.hkDemand with
    | false => rfl
    | true => exact absurd h0 ((hi.pub.q3 hc).mp hd)
  have K := keeps_hk h f0
  exact stepW_cases (P := fun _ w' => HK h f0 w') e w hi
    (cc := fun _ _ ih => closeCheck_keeps K ih)
    (reply := fun _ _ _ _ => silent _ (by intros; simp))
    (pubReply := fun _ _ _ => silent _ (by intros; simp))
    (ignored := fun _ _ => silent _ (by intros; simp))
    (nop := fun _ _ => hk)
    (write := fun _ => silent _ (by intros; simp))
    (detach := fun _ => hk_upd _ hk rfl rfl rfl)
    (descHold := fun _ hc _ _ => hk_upd _ (holdDemand_keeps K (fun _ => hdem hc) hk) rfl rfl rfl)
    (readHold := fun _ _ hc _ _ => hk_upd _ (holdDemand_keeps K (fun _ => hdem hc) hk) rfl rfl rfl)
    (readPost := fun _ _ _ _ => (quiet_addReaderPost _ _).hk hk)
    (pubFresh := fun p ok _ hkind hs => hk_pubAttach p ok w hk (unfed hi (Or.inl ⟨hkind, hs⟩)))
    (pubReplace := fun p ok q w1 _ _ e1 i1 _ i3 i4 =>
      hk_pubAttach p ok w1 (e1 ▸ executeRemovePublisher_keeps K (silent _ (by intros; simp))) (unfed i1 (Or.inl ⟨i3, i4⟩)))
    (removePublisher := fun _ _ _ => executeRemovePublisher_keeps K hk)
    (removeReader := fun r _ => doRemoveReader_keeps K r hk)
    (srcReady := fun ok _ hg =>
      hk_srcReady ok w hk (unfed hi (Or.inr ⟨hi.kind.kStatic.mpr hg.1, by simpa using hg.2.2⟩)))
    (srcNotReady := fun _ _ => hk_srcNotReady w hk)
    (timer := fun t _ _ => hk_fireTimer t w hk)
    (reload := fun _ _ _ => hk_upd _ hk rfl rfl rfl)
    (close := fun _ => hk_doClose w hk)

end MtxVerif.PathSM
