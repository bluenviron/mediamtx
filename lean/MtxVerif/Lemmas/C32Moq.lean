/-
C32 — per-type lemmas: totality, progress, allocation bound and round trip of every MoQ decoder of
Model/C32_Moq.lean, obtained by composing the combinator lemmas of Lemmas/C32Lib.lean.
-/
import MtxVerif.Model.C32_Moq
import MtxVerif.Lemmas.C32Lib

namespace MtxVerif.C32

theorem bytesLP_rt64 (mode : AllocMode) (s : Bool) {v : Bytes} (h : v.length < two64) (tail : Bytes) :
    (bytesLP u64max mode s (encBytesLP v ++ tail)).r = .ok v tail :=
  bytesLP_roundtrip _ _ _ v tail (Nat.le_pred_of_lt h) h

/-- the type delta the encoders write brings the decoder's running type (mod `M = 2^64`) to `typ` -/
theorem delta_wrap {M prev typ : Nat} (hp : prev < M) (ht : typ < M) :
    (prev + (typ + M - prev) % M) % M = typ := by
  rw [Nat.add_mod_mod, Nat.add_sub_cancel' (Nat.le_trans (Nat.le_of_lt hp) (Nat.le_add_left _ _)),
    Nat.add_mod_right, Nat.mod_eq_of_lt ht]

theorem delta_lt (prev typ : Nat) : (typ + two64 - prev) % two64 < 2 ^ 64 :=
  Nat.mod_lt _ (by decide)

theorem total_namespace : Total decNamespace := Total.listLP _ _ (Total.bytesLP _ _ _)
theorem nonIncr_namespace : NonIncr decNamespace := NonIncr.listLP _ _ (NonIncr.bytesLP _ _ _)
theorem allocB_namespace : AllocB (16 * 32) decNamespace :=
  AllocB.listLP 32 16 (AllocB.bytesLP0 _ _)

theorem wfNamespace_iff (ns : Namespace) :
    wfNamespace ns = true ↔ ns.length ≤ 32 ∧ ∀ p ∈ ns, p.length < two64 := by
  unfold wfNamespace maxFieldCount
  simp

theorem namespace_roundtrip (ns : Namespace) (h : wfNamespace ns = true) (tail : Bytes) :
    (decNamespace (encNamespace ns ++ tail)).r = .ok ns tail := by
  rw [wfNamespace_iff] at h
  exact listLP_roundtrip 32 16 (wf := fun p => p.length < two64) (fun _ tail h => bytesLP_rt64 _ _ h tail) ns tail
    ⟨h.1, by omega, h.2⟩

/-- a decoded namespace never has more than 32 fields -/
theorem namespace_le (b : Bytes) (ns : Namespace) (r : Bytes) (h : (decNamespace b).r = .ok ns r) :
    ns.length ≤ 32 := listLP_le _ _ b ns r h

theorem total_authInner : Total decAuthInner :=
  Total.bind (Total.varint _) fun _ => Total.bind (Total.guardD _ _) fun _ =>
    Total.bind (Total.varint _) fun _ => Total.bind Total.takeAll fun _ => Total.pure _

theorem allocC_authInner : AllocC 0 decAuthInner :=
  AllocC.bind (AllocC.zero varint_alloc0) fun _ => AllocC.bind (AllocC.guardD _ _) fun _ =>
    AllocC.bind (AllocC.zero varint_alloc0) fun _ => AllocC.bind (AllocC.zero takeAll_alloc) fun _ =>
    AllocC.pure _

theorem total_authToken : Total decAuthToken :=
  Total.bind (Total.bytesLP _ _ _) fun _ => Total.onBytes total_authInner _

theorem strict_authToken : Strict decAuthToken :=
  Strict.bind (Strict.bytesLP _ _ _) fun _ => NonIncr.onBytes _ _

theorem allocB_authToken : AllocB 0 decAuthToken :=
  AllocB.bindPaid (AllocB.bytesLP0 _ _) fun _ => AllocB.onBytes allocC_authInner _

theorem wfAuthToken_iff (t : AuthToken) :
    wfAuthToken t = true ↔ t.aliasType = 3 ∧ t.tokenType < two64 ∧ authInnerSize t < two64 := by
  simp [wfAuthToken, aliasUseValue, and_assoc]

theorem rt_authToken (t : AuthToken) (h : wfAuthToken t = true) (tail : Bytes) :
    (decAuthToken (encAuthToken t ++ tail)).r = .ok t tail := by
  obtain ⟨alias, tt, v⟩ := t
  obtain ⟨rfl, ht, hs⟩ := (wfAuthToken_iff _).mp h
  have hlen : (encVarint 3 ++ encVarint tt ++ v).length = authInnerSize ⟨3, tt, v⟩ := by
    simp only [List.length_append, encVarint_length, authInnerSize]
  have inner : (decAuthInner (encVarint 3 ++ encVarint tt ++ v)).r = .ok ⟨3, tt, v⟩ [] := by
    simp only [decAuthInner, bind_eq, pure_eq, List.append_assoc]
    rw [bind_ok (varint_rt false 3 (by decide) _), bind_guardD_pos, bind_ok (varint_rt false _ ht _)]
    all_goals rfl
  simp only [decAuthToken, bind_eq, encAuthToken]
  rw [← hlen]
  refine (bind_ok (bytesLP_rt64 .none false (hlen ▸ hs) tail)).trans ?_
  rw [onBytes_r, inner]

theorem total_paramsLoop : ∀ k cur, Total (paramsLoop k cur)
  | 0, _ => Total.pure _
  | k + 1, _ =>
    Total.bind (Total.varint _) fun _ => Total.bind (Total.guardD _ _) fun _ =>
      Total.bind (Total.allocD _) fun _ => Total.bind total_authToken fun _ =>
      Total.bind (total_paramsLoop k _) fun _ => Total.pure _

theorem nonIncr_paramsLoop : ∀ k cur, NonIncr (paramsLoop k cur)
  | 0, _ => NonIncr.pure _
  | k + 1, _ =>
    NonIncr.bind (NonIncr.varint _) fun _ => NonIncr.bind (NonIncr.guardD _ _) fun _ =>
      NonIncr.bind (NonIncr.allocD _) fun _ => NonIncr.bind strict_authToken.nonIncr fun _ =>
      NonIncr.bind (nonIncr_paramsLoop k _) fun _ => NonIncr.pure _

/-- whatever the (unchecked, up to 2^64) parameter count says, allocation is paid for by input -/
theorem allocB_paramsLoop : ∀ k cur, AllocB 0 (paramsLoop k cur)
  | 0, _ => AllocB.pure _
  | k + 1, _ =>
    AllocB.bindStrict varint_alloc0 (Strict.varint _) fun _ =>
      AllocB.bindPaid (AllocB.guardD _ _) fun _ => (AllocB.bind (AllocB.allocD _) fun _ =>
        AllocB.bindPaid allocB_authToken fun _ => AllocB.bindPaid (allocB_paramsLoop k _) fun _ =>
        AllocB.pure _).mono (by decide)

theorem total_params : Total decParams :=
  Total.bind (Total.varint _) fun _ => total_paramsLoop _ _

theorem nonIncr_params : NonIncr decParams :=
  NonIncr.bind (NonIncr.varint _) fun _ => nonIncr_paramsLoop _ _

theorem allocB_params : AllocB 0 decParams :=
  AllocB.bindPaid AllocB.varint0 fun _ => allocB_paramsLoop _ _

theorem wfParams_iff (ps : Params) :
    wfParams ps = true ↔ ps.length < two64 ∧ ∀ t ∈ ps, wfAuthToken t = true := by
  simp [wfParams, List.all_eq_true]

theorem rt_paramsLoop (ps : Params) (prev : Nat) (hp : prev < two64)
    (h : ∀ t ∈ ps, wfAuthToken t = true) (tail : Bytes) :
    (paramsLoop ps.length prev (encParamsFrom prev ps ++ tail)).r = .ok ps tail := by
  induction ps generalizing prev with
  | nil => rfl
  | cons t ts ih =>
    simp only [List.length_cons, paramsLoop, bind_eq, pure_eq, encParamsFrom, List.append_assoc]
    rw [bind_ok (varint_rt false _ (delta_lt _ _) _), delta_wrap hp (by decide),
      bind_guardD_pos, bind_ok (allocD_r _ _), bind_ok (rt_authToken t (h t List.mem_cons_self) _),
      bind_ok (ih _ (by decide) fun u hu => h u (List.mem_cons_of_mem _ hu))]
    all_goals rfl

theorem rt_params (ps : Params) (h : wfParams ps = true) (tail : Bytes) :
    (decParams (encParamsC ps ++ tail)).r = .ok ps tail := by
  rw [wfParams_iff] at h
  simp only [decParams, bind_eq, encParamsC, List.append_assoc]
  rw [bind_ok (varint_rt false _ h.1 _)]
  exact rt_paramsLoop ps 0 (by decide) h.2 tail

/-! ### loops with fuel

`propsLoop` and `setupLoop` run until the buffer is empty; the fuel starts above the input length and
every iteration begins with a varint, which consumes at least one byte. -/

def TotalBelow (n : Nat) (d : Dec α) : Prop := ∀ b, b.length < n → (d b).r ≠ .panic

theorem TotalBelow.bind {d : Dec α} {f : α → Dec β} {n : Nat} (ht : Total d) (hn : NonIncr d)
    (hf : ∀ v, TotalBelow n (f v)) : TotalBelow n (Dec.bind d f) := fun b hb =>
  bind_ne_panic (ht b) fun v r h => hf v r (Nat.lt_of_le_of_lt (hn b v r h) hb)

theorem TotalBelow.bindStrict {d : Dec α} {f : α → Dec β} {n : Nat} (ht : Total d) (hs : Strict d)
    (hf : ∀ v, TotalBelow n (f v)) : TotalBelow (n + 1) (Dec.bind d f) := fun b hb =>
  bind_ne_panic (ht b) fun v r h => hf v r (Nat.lt_of_lt_of_le (hs b v r h) (Nat.le_of_lt_succ hb))

theorem TotalBelow.andThen {d : Dec α} {n : Nat} (h : TotalBelow n d) (f : α → Dec β)
    (hf : ∀ v, Total (f v)) : TotalBelow n (Dec.bind d f) := fun b hb =>
  bind_ne_panic (h b hb) fun v r _ => hf v r

/-- the `for len(buf) > 0` test at the head of both loops -/
theorem TotalBelow.orEmpty {d : Dec α} {n : Nat} {v : α} (h : TotalBelow n d) :
    TotalBelow n fun b => if b.isEmpty then ⟨.ok v [], 0⟩ else d b := fun b hb =>
  ite_ind (p := fun o : Out α => o.r ≠ .panic) (fun _ => nofun) fun _ => h b hb

theorem AllocB.orEmpty {d : Dec α} {B : Nat} {v : α} (h : AllocB B d) :
    AllocB B fun b => if b.isEmpty then ⟨.ok v [], 0⟩ else d b := fun b =>
  ite_ind (p := fun o : Out α => o.alloc + A * o.r.restLen ≤ A * b.length + B)
    (fun _ => Nat.zero_le _) fun _ => h b

theorem encVarint_ne_nil (v : Nat) : encVarint v ≠ [] := nofun

/-- an iteration consumes at least the byte of its leading varint, so the fuel stays above the
length of what is left -/
theorem fuel_step {f delta : Nat} {x rest : Bytes} (hf : (encVarint delta ++ (x ++ rest)).length < f) :
    rest.length < f - 1 := by
  have := (varintLen_range delta).1
  simp only [List.length_append, encVarint_length] at hf
  omega

/-- the loop never panics and never hangs as long as the fuel exceeds the input length -/
theorem total_propsLoop : ∀ f cur, TotalBelow f (propsLoop f cur)
  | 0, _ => fun _ => nofun
  | f + 1, _ =>
    TotalBelow.orEmpty <| TotalBelow.bindStrict (Total.varint _) (Strict.varint _) fun _ =>
      ite_ind
        (fun _ => TotalBelow.bind (Total.allocD _) (NonIncr.allocD _) fun _ =>
          TotalBelow.bind (Total.varint _) (NonIncr.varint _) fun _ =>
          (total_propsLoop f _).andThen _ fun _ => Total.pure _)
        fun _ => ite_ind
          (fun _ => TotalBelow.bind (Total.bytesLP _ _ _) (NonIncr.bytesLP _ _ _) fun _ =>
            total_propsLoop f _)
          fun _ => TotalBelow.bind (Total.varint _) (NonIncr.varint _) fun _ => total_propsLoop f _

theorem total_props : Total decProps := fun b => total_propsLoop _ _ b (Nat.lt_succ_self _)

theorem allocB_propsLoop : ∀ f cur, AllocB 0 (propsLoop f cur)
  | 0, _ => fun _ => Nat.zero_le _
  | f + 1, _ =>
    AllocB.orEmpty <| AllocB.bindStrict varint_alloc0 (Strict.varint _) fun _ =>
      ite_ind
        (fun _ => (AllocB.bind (AllocB.allocD _) fun _ => AllocB.bindPaid AllocB.varint0 fun _ =>
          AllocB.bindPaid (allocB_propsLoop f _) fun _ => AllocB.pure _).mono (by decide))
        fun _ => ite_ind
          (fun _ => (AllocB.bindPaid (AllocB.bytesLP0 _ _) fun _ => allocB_propsLoop f _).mono (by decide))
          fun _ => (AllocB.bindPaid AllocB.varint0 fun _ => allocB_propsLoop f _).mono (by decide)

theorem allocB_props : AllocB 0 decProps := fun b => allocB_propsLoop _ _ b

theorem wfProps_iff (ps : Props) : wfProps ps = true ↔ ∀ t ∈ ps, t < two64 := by
  unfold wfProps; simp

theorem rt_propsLoop (ps : Props) (prev f : Nat) (hp : prev < two64)
    (h : ∀ t ∈ ps, t < two64) (hf : (encPropsFrom prev ps).length < f) :
    (propsLoop f prev (encPropsFrom prev ps)).r = .ok ps [] := by
  induction ps generalizing prev f with
  | nil =>
    obtain ⟨f, rfl⟩ := Nat.exists_eq_succ_of_ne_zero (Nat.ne_zero_of_lt hf)
    rfl
  | cons t ts ih =>
    obtain ⟨f, rfl⟩ := Nat.exists_eq_succ_of_ne_zero (Nat.ne_zero_of_lt hf)
    simp only [encPropsFrom, List.append_assoc] at hf ⊢
    have hlen : (encPropsFrom timestampPropertyType ts).length < f := fuel_step hf
    unfold propsLoop
    simp only [bind_eq, pure_eq]
    rw [if_neg (by simp [encVarint_ne_nil]), bind_ok (varint_rt false _ (delta_lt _ _) _),
      delta_wrap hp (by decide), if_pos (beq_self_eq_true _), bind_ok (allocD_r _ _),
      bind_ok (varint_rt false t (h t List.mem_cons_self) _),
      bind_ok (ih _ f (by decide) (fun u hu => h u (List.mem_cons_of_mem _ hu)) hlen)]
    rfl

theorem props_roundtrip (ps : Props) (h : wfProps ps = true) :
    (decProps (encProps ps)).r = .ok ps [] :=
  rt_propsLoop ps 0 _ (by decide) ((wfProps_iff ps).mp h) (Nat.lt_succ_self _)

theorem total_setupLoop : ∀ f prev acc, TotalBelow f (setupLoop f prev acc)
  | 0, _, _ => fun _ => nofun
  | f + 1, _, _ =>
    TotalBelow.orEmpty <| TotalBelow.bindStrict (Total.varint _) (Strict.varint _) fun _ =>
      ite_ind
        (fun _ => TotalBelow.bind (Total.varint _) (NonIncr.varint _) fun _ => total_setupLoop f _ _)
        fun _ => TotalBelow.bind (Total.bytesLP _ _ _) (NonIncr.bytesLP _ _ _) fun _ =>
          total_setupLoop f _ _

theorem total_setup : Total decSetupP := fun b => total_setupLoop _ _ _ b (Nat.lt_succ_self _)

theorem allocB_setupLoop : ∀ f prev acc, AllocB 0 (setupLoop f prev acc)
  | 0, _, _ => fun _ => Nat.zero_le _
  | f + 1, _, _ =>
    AllocB.orEmpty <| AllocB.bindStrict varint_alloc0 (Strict.varint _) fun _ =>
      ite_ind
        (fun _ => (AllocB.bindPaid AllocB.varint0 fun _ => allocB_setupLoop f _ _).mono (by decide))
        fun _ => (AllocB.bindPaid (AllocB.bytesLP0 _ _) fun _ => allocB_setupLoop f _ _).mono (by decide)

theorem allocB_setup : AllocB 0 decSetupP := fun b => allocB_setupLoop _ _ _ b

theorem setupLoop_nil {f : Nat} (hf : ([] : Bytes).length < f) (prev : Nat) (acc : Setup) :
    (setupLoop f prev acc []).r = .ok acc [] := by
  obtain ⟨f, rfl⟩ := Nat.exists_eq_succ_of_ne_zero (Nat.ne_zero_of_lt hf)
  rfl

/-- one odd (byte-string) option -/
theorem setupLoop_odd {f prev delta : Nat} (cur : Nat) {acc : Setup} {v rest : Bytes}
    (hf : (encVarint delta ++ (encBytesLP v ++ rest)).length < f) (hd : delta < 2 ^ 64)
    (hv : v.length < two64) (hcur : (prev + delta) % two64 = cur) (hodd : cur % 2 = 1) :
    (setupLoop f prev acc (encVarint delta ++ (encBytesLP v ++ rest))).r =
      (setupLoop (f - 1) cur
        (if cur == setupOptionPath then { acc with path := v }
         else if cur == setupOptionAuthority then { acc with authority := v } else acc) rest).r := by
  obtain ⟨f, rfl⟩ := Nat.exists_eq_succ_of_ne_zero (Nat.ne_zero_of_lt hf)
  conv => lhs; unfold setupLoop
  simp only [bind_eq]
  rw [if_neg (by simp [encVarint_ne_nil]), bind_ok (varint_rt false _ hd _), hcur,
    if_neg (by rw [hodd]; decide), bind_ok (bytesLP_rt64 _ _ hv rest)]
  rfl

theorem wfSetup_iff (m : Setup) :
    wfSetup m = true ↔ m.path.length < two64 ∧ m.authority.length < two64 := by
  unfold wfSetup; simp

theorem rt_setupLoop (m : Setup) (h : wfSetup m = true) {f : Nat} (hf : (encSetupP m ++ []).length < f) :
    (setupLoop f 0 ⟨[], []⟩ (encSetupP m ++ [])).r = .ok m [] := by
  obtain ⟨path, auth⟩ := m
  obtain ⟨hp, ha⟩ := (wfSetup_iff _).mp h
  unfold encSetupP at hf ⊢
  cases path <;> cases auth <;>
    simp only [List.isEmpty_nil, List.isEmpty_cons, if_true, Bool.false_eq_true, if_false,
      List.nil_append, List.append_assoc, setupOptionPath, setupOptionAuthority] at hf ⊢
  · exact setupLoop_nil hf _ _
  · rw [setupLoop_odd 5 hf (by decide) ha (by decide) (by decide), setupLoop_nil (fuel_step hf)]
    rfl
  · rw [setupLoop_odd 1 hf (by decide) hp (by decide) (by decide), setupLoop_nil (fuel_step hf)]
    rfl
  · have h1 := fuel_step hf
    rw [setupLoop_odd 1 hf (by decide) hp (by decide) (by decide),
      setupLoop_odd 5 h1 (by decide) ha (by decide) (by decide), setupLoop_nil (fuel_step h1)]
    rfl

theorem rt_setup (m : Setup) (h : wfSetup m = true) : (decSetupP (encSetupP m)).r = .ok m [] :=
  List.append_nil (encSetupP m) ▸ rt_setupLoop m h (Nat.lt_succ_self _)

theorem total_subscribe : Total decSubscribeP :=
  Total.bind (Total.varint _) fun _ => Total.bind total_namespace fun _ =>
    Total.bind (Total.bytesLP _ _ _) fun _ => Total.bind total_params fun _ => Total.pure _

theorem allocB_subscribe : AllocB 512 decSubscribeP :=
  AllocB.bindPaid AllocB.varint0 fun _ => AllocB.bind allocB_namespace fun _ =>
    AllocB.bindPaid (AllocB.bytesLP0 _ _) fun _ => AllocB.bindPaid allocB_params fun _ =>
    AllocB.pure _

theorem total_publish : Total decPublishP :=
  Total.bind (Total.varint _) fun _ => Total.bind total_namespace fun _ =>
    Total.bind (Total.bytesLP _ _ _) fun _ => Total.bind (Total.varint _) fun _ =>
    Total.bind total_params fun _ => Total.bind total_props fun _ => Total.pure _

theorem allocB_publish : AllocB 512 decPublishP :=
  AllocB.bindPaid AllocB.varint0 fun _ => AllocB.bind allocB_namespace fun _ =>
    AllocB.bindPaid (AllocB.bytesLP0 _ _) fun _ => AllocB.bindPaid AllocB.varint0 fun _ =>
    AllocB.bindPaid allocB_params fun _ => AllocB.bindPaid allocB_props fun _ => AllocB.pure _

theorem total_subscribeOk : Total decSubscribeOkP :=
  Total.bind (Total.varint _) fun _ => Total.bind total_params fun _ =>
    Total.bind total_props fun _ => Total.pure _

theorem allocB_subscribeOk : AllocB 0 decSubscribeOkP :=
  AllocB.bindPaid AllocB.varint0 fun _ => AllocB.bindPaid allocB_params fun _ =>
    AllocB.bindPaid allocB_props fun _ => AllocB.pure _

theorem total_paramsProps : Total decParamsPropsP :=
  Total.bind total_params fun _ => Total.bind total_props fun _ => Total.pure _

theorem allocB_paramsProps : AllocB 0 decParamsPropsP :=
  AllocB.bindPaid allocB_params fun _ => AllocB.bindPaid allocB_props fun _ => AllocB.pure _

theorem total_requestError : Total decRequestErrorP :=
  Total.bind (Total.varint _) fun _ => Total.bind (Total.varint _) fun _ =>
    Total.bind (Total.bytesLP _ _ _) fun _ => Total.pure _

theorem allocB_requestError : AllocB 0 decRequestErrorP :=
  AllocB.bindPaid AllocB.varint0 fun _ => AllocB.bindPaid AllocB.varint0 fun _ =>
    AllocB.bindPaid (AllocB.bytesLP0 _ _) fun _ => AllocB.pure _

theorem rt_subscribe (m : Subscribe) (h : wfSubscribe m = true) (tail : Bytes) :
    (decSubscribeP (encSubscribeP m ++ tail)).r = .ok m tail := by
  simp only [wfSubscribe, Bool.and_eq_true, decide_eq_true_eq] at h
  obtain ⟨⟨⟨h1, h2⟩, h3⟩, h4⟩ := h
  simp only [decSubscribeP, encSubscribeP, bind_eq, pure_eq, List.append_assoc]
  rw [bind_ok (varint_rt false _ h1 _), bind_ok (namespace_roundtrip _ h2 _),
    bind_ok (bytesLP_rt64 _ _ h3 _), bind_ok (rt_params _ h4 _)]
  rfl

theorem rt_publish (m : Publish) (h : wfPublish m = true) :
    (decPublishP (encPublishP m)).r = .ok m [] := by
  simp only [wfPublish, Bool.and_eq_true, decide_eq_true_eq] at h
  obtain ⟨⟨⟨⟨⟨h1, h2⟩, h3⟩, h4⟩, h5⟩, h6⟩ := h
  simp only [decPublishP, encPublishP, bind_eq, pure_eq, List.append_assoc]
  rw [bind_ok (varint_rt false _ h1 _), bind_ok (namespace_roundtrip _ h2 _),
    bind_ok (bytesLP_rt64 _ _ h3 _), bind_ok (varint_rt false _ h4 _),
    bind_ok (rt_params _ h5 _), bind_ok (props_roundtrip _ h6)]
  rfl

theorem rt_subscribeOk (m : SubscribeOk) (h : wfSubscribeOk m = true) :
    (decSubscribeOkP (encSubscribeOkP m)).r = .ok m [] := by
  simp only [wfSubscribeOk, Bool.and_eq_true, decide_eq_true_eq] at h
  obtain ⟨⟨h1, h2⟩, h3⟩ := h
  simp only [decSubscribeOkP, encSubscribeOkP, bind_eq, pure_eq, List.append_assoc]
  rw [bind_ok (varint_rt false _ h1 _), bind_ok (rt_params _ h2 _), bind_ok (props_roundtrip _ h3)]
  rfl

theorem rt_paramsProps (m : ParamsProps) (h : wfParamsProps m = true) :
    (decParamsPropsP (encParamsPropsP m)).r = .ok m [] := by
  simp only [wfParamsProps, Bool.and_eq_true] at h
  simp only [decParamsPropsP, encParamsPropsP, bind_eq, pure_eq]
  rw [bind_ok (rt_params _ h.1 _), bind_ok (props_roundtrip _ h.2)]
  rfl

theorem rt_requestError (m : RequestError) (h : wfRequestError m = true) (tail : Bytes) :
    (decRequestErrorP (encRequestErrorP m ++ tail)).r = .ok m tail := by
  simp only [wfRequestError, Bool.and_eq_true, decide_eq_true_eq] at h
  simp only [decRequestErrorP, encRequestErrorP, bind_eq, pure_eq, List.append_assoc]
  rw [bind_ok (varint_rt false _ h.1 _), ← (by decide : encVarint 0 = [0]),
    bind_ok (varint_rt false 0 (by decide) _), bind_ok (bytesLP_rt64 _ _ h.2 _)]
  rfl

theorem frame16_eq : frame16 = Dec.bind (takeD 2 .short) fun lb =>
    Dec.bind (allocD (beNat lb)) fun _ => takeD (beNat lb) .short := by
  simp only [frame16, bind_eq, need_slice_bind, need_slice]

theorem total_frame16 : Total frame16 :=
  frame16_eq ▸ Total.bind (Total.takeD _ _ _) fun _ => Total.bind (Total.allocD _) fun _ => Total.takeD _ _ _

theorem beNat_le_max {lb : Bytes} (h : lb.length = 2) : beNat lb ≤ maxMsgPayload := by
  have := beNat_lt lb
  rw [h] at this
  exact Nat.le_of_lt_succ this

theorem frame16_le (b v r : Bytes) (h : (frame16 b).r = .ok v r) : v.length ≤ maxMsgPayload := by
  rw [frame16_eq] at h
  obtain ⟨lb, _, h2, h⟩ := bind_ok_inv h
  obtain ⟨_, _, _, h⟩ := bind_ok_inv h
  rw [(takeD_ok h).1]
  exact beNat_le_max (takeD_ok h2).1

theorem allocC_frame16 : AllocC maxMsgPayload frame16 :=
  frame16_eq ▸ (AllocC.bindOk (AllocC.takeD _ _ _) fun _ _ _ h2 =>
    (AllocC.bind (AllocC.allocD _) fun _ => AllocC.takeD _ _ _).mono (beNat_le_max (takeD_ok h2).1)).mono
      (Nat.le_of_eq (Nat.zero_add _))

theorem frame16_rt (payload tail : Bytes) (h : payload.length ≤ maxMsgPayload) :
    (frame16 (beBytes 2 payload.length ++ (payload ++ tail))).r = .ok payload tail := by
  have hn : beNat (beBytes 2 payload.length) = payload.length := by
    rw [beNat_beBytes]
    exact Nat.mod_eq_of_lt (Nat.lt_succ_of_le h)
  rw [frame16_eq, bind_ok (takeD_rt _ _ (beBytes_length 2 _) _), bind_ok (allocD_r _ _), hn]
  exact takeD_rt _ _ rfl tail

/-- one step down the `switch`: what holds of this case's decoder and of every later one holds of
whatever the `switch` selects -/
theorem ite_some_ind {P : Dec Msg → Prop} {c : Prop} [Decidable c] {a : Dec Msg} {x : Option (Dec Msg)}
    (ha : P a) (hx : ∀ d, x = some d → P d) (d : Dec Msg) (h : (if c then some a else x) = some d) :
    P d :=
  ite_ind (p := fun o => o = some d → P d) (fun _ h => Option.some.inj h ▸ ha) (fun _ => hx d) h

theorem selMsg_safe (t : Nat) (d : Dec Msg) (h : selMsg t = some d) : Total d ∧ AllocB 512 d :=
  have up {α : Type} {d : Dec α} (h : AllocB 0 d) : AllocB 512 d := h.mono (by decide)
  ite_some_ind (P := fun d => Total d ∧ AllocB 512 d)
    ⟨Total.map _ total_setup, AllocB.map _ (up allocB_setup)⟩ (ite_some_ind
    ⟨Total.map _ total_setup, AllocB.map _ (up allocB_setup)⟩ <| ite_some_ind
    ⟨Total.map _ total_setup, AllocB.map _ (up allocB_setup)⟩ <| ite_some_ind
    ⟨Total.map _ total_subscribe, AllocB.map _ allocB_subscribe⟩ <| ite_some_ind
    ⟨Total.map _ total_subscribeOk, AllocB.map _ (up allocB_subscribeOk)⟩ <| ite_some_ind
    ⟨Total.map _ total_requestError, AllocB.map _ (up allocB_requestError)⟩ <| ite_some_ind
    ⟨Total.map _ total_publish, AllocB.map _ allocB_publish⟩ <| ite_some_ind
    ⟨Total.map _ total_paramsProps, AllocB.map _ (up allocB_paramsProps)⟩ <| ite_some_ind
    ⟨Total.map _ total_paramsProps, AllocB.map _ (up allocB_paramsProps)⟩
    fun _ (h : none = some _) => nomatch h) d h

theorem total_readMsg : Total readMsg :=
  Total.tagged (Total.pair (Total.varint _) total_frame16) fun _ _ h =>
    let ⟨_, hs, e⟩ := Option.map_eq_some_iff.mp h
    e ▸ Total.onBytes (selMsg_safe _ _ hs).1 _

/-- allocation limit of one control message read from a stream, whatever the bytes -/
def msgAllocLimit : Nat := 8 + maxMsgPayload + (128 * maxMsgPayload + 512)

theorem allocC_readMsg : AllocC msgAllocLimit readMsg := by
  refine AllocC.bindOk (AllocC.pair (AllocC.varint _) allocC_frame16) fun b tp r h => ?_
  obtain ⟨t, payload⟩ := tp
  obtain ⟨r1, _, hf⟩ := pair_ok h
  cases hs : selMsg t with
  | none => simp only [hs, Option.map_none]; exact (AllocC.fail _).mono (Nat.zero_le _)
  | some d =>
    simp only [hs, Option.map_some]
    exact AllocC.onBytes (selMsg_safe _ _ hs).2 payload (frame16_le _ _ _ hf)

theorem selMsg_typ (m : Msg) : selMsg m.typ = some (match m with
    | .setup _ => Dec.map .setup decSetupP | .clientSetup _ => Dec.map .clientSetup decSetupP
    | .serverSetup _ => Dec.map .serverSetup decSetupP | .subscribe _ => Dec.map .subscribe decSubscribeP
    | .subscribeOk _ => Dec.map .subscribeOk decSubscribeOkP
    | .requestError _ => Dec.map .requestError decRequestErrorP
    | .publish _ => Dec.map .publish decPublishP | .publishOk _ => Dec.map .publishOk decParamsPropsP
    | .requestOk _ => Dec.map .requestOk decParamsPropsP) := by
  cases m <;> rfl

/-- every payload decoder returns the message when run on exactly its encoded payload -/
theorem rt_payload (m : Msg) (h : wfMsgBody m = true) :
    ∃ d, selMsg m.typ = some d ∧ (d m.payload).r = .ok m [] := by
  refine ⟨_, selMsg_typ m, ?_⟩
  cases m with
  | setup x | clientSetup x | serverSetup x => exact map_ok (rt_setup x h)
  | subscribe x => exact map_ok (List.append_nil (encSubscribeP x) ▸ rt_subscribe x h [] :)
  | subscribeOk x => exact map_ok (rt_subscribeOk x h)
  | requestError x => exact map_ok (List.append_nil (encRequestErrorP x) ▸ rt_requestError x h [] :)
  | publish x => exact map_ok (rt_publish x h)
  | publishOk x | requestOk x => exact map_ok (rt_paramsProps x h)

theorem typ_lt (m : Msg) : m.typ < 2 ^ 64 := by cases m <;> simp only [Msg.typ] <;> decide

/-- `Read` on a frame whose length field tells the truth: the type switch runs on exactly the payload -/
theorem readMsg_frame (typ : Nat) (p tail : Bytes) (ht : typ < 2 ^ 64) (hp : p.length ≤ maxMsgPayload) :
    (readMsg (encVarint typ ++ (beBytes 2 p.length ++ (p ++ tail)))).r =
      match selMsg typ with
      | some d => (onBytes d p tail).r
      | none => .err .unsupported := by
  have hpair : (pair (varint true) frame16 (encVarint typ ++ (beBytes 2 p.length ++ (p ++ tail)))).r
      = .ok (typ, p) tail := by
    simp only [pair, bind_eq, pure_eq]
    rw [bind_ok (varint_rt true _ ht _), bind_ok (frame16_rt _ _ hp)]
    rfl
  simp only [readMsg, tagged, bind_eq]
  rw [bind_ok hpair]
  cases selMsg typ <;> rfl

/-- control messages through `Marshal` / `controlmessage.Read`, all nine kinds -/
theorem message_roundtrip (m : Msg) (h : wfMsg m = true) (tail : Bytes) :
    (readMsg (encMsg m ++ tail)).r = .ok m tail := by
  simp only [wfMsg, Bool.and_eq_true, fitsFrame, decide_eq_true_eq] at h
  obtain ⟨d, hs, hd⟩ := rt_payload m h.1
  simp only [encMsg, List.append_assoc]
  rw [readMsg_frame _ _ _ (typ_lt m) h.2, hs]
  simp only []
  rw [onBytes_r, hd]

theorem total_readHeader : Total readHeader := by
  intro b
  simp only [readHeader, bind_eq, pure_eq]
  cases b with
  | nil => nofun
  | cons x xs =>
    rw [bind_need_byte0]
    exact (Total.bind (Total.varint _) fun _ => Total.bind (Total.varint _) fun _ => Total.pure _) xs

theorem allocC_readHeader : AllocC 16 readHeader :=
  AllocC.bind (AllocC.zero (needD_alloc _ _)) fun _ =>
    AllocC.bind (AllocC.zero fun b => by cases b <;> rfl) fun _ =>
    AllocC.bind (AllocC.varint _) fun _ => AllocC.bind (AllocC.varint _) fun _ => AllocC.pure _

theorem headerType_lt (h : Header) : headerType h < 128 := by
  unfold headerType; cases h.properties <;> cases h.firstObject <;> decide

/-- `Header.read` takes any first byte: bit 0 = properties, bit 6 = first object -/
theorem readHeader_cons (x : UInt8) {a g : Nat} (ha : a < 2 ^ 64) (hg : g < 2 ^ 64) (tail : Bytes) :
    (readHeader (x :: (encVarint a ++ (encVarint g ++ tail)))).r =
      .ok ⟨x.toNat % 2 == 1, x.toNat / 64 % 2 == 1, a, g⟩ tail := by
  simp only [readHeader, bind_eq, pure_eq]
  rw [bind_need_byte0, bind_ok (varint_rt true _ ha _), bind_ok (varint_rt true _ hg _)]
  rfl

theorem encVarint_small {n : Nat} (h : n < 128) : encVarint n = [UInt8.ofNat n] := by
  have : varintLen n = 1 := if_pos h
  simp [encVarint, this, prefixOf, beBytes]

theorem header_roundtrip (h : Header) (hw : wfHeader h = true) (tail : Bytes) :
    (readHeader (encHeader h ++ tail)).r = .ok h tail := by
  simp only [wfHeader, Bool.and_eq_true, decide_eq_true_eq] at hw
  simp only [encHeader, List.append_assoc]
  rw [encVarint_small (headerType_lt h), List.cons_append, List.nil_append, readHeader_cons _ hw.1 hw.2]
  obtain ⟨p, f, a, g⟩ := h
  cases p <;> cases f <;> simp [headerType]

theorem total_readObject (hp : Bool) : Total (readObject hp) :=
  Total.bind (Total.varint _) fun _ =>
    Total.bind (ite_ind
      (fun _ => Total.bind (Total.bytesLP _ _ _) fun _ => Total.onBytes total_props _)
      fun _ => Total.pure _) fun _ =>
    Total.bind (Total.bytesLP _ _ _) fun _ => ite_ind
      (fun _ => Total.bind (Total.varint _) fun _ => Total.bind (Total.guardD _ _) fun _ => Total.pure _)
      fun _ => Total.pure _

/-- allocation limit of one object read from a stream -/
def objAllocLimit : Nat := 8 + (8 + maxPropsLen + 128 * maxPropsLen) + (8 + maxPayloadSize) + 8

theorem allocC_readObject (hp : Bool) : AllocC objAllocLimit (readObject hp) :=
  (AllocC.bind (AllocC.varint _) fun _ =>
    AllocC.bind (ite_ind (p := AllocC (8 + maxPropsLen + (128 * maxPropsLen + 0)))
      (fun _ => AllocC.bindOk (AllocC.bytesLP _ _) fun _ sub _ h =>
        AllocC.onBytes allocB_props sub (bytesLP_le _ _ _ _ _ _ h))
      fun _ => (AllocC.pure _).mono (Nat.zero_le _)) fun _ =>
    AllocC.bind (AllocC.bytesLP _ _) fun _ => ite_ind
      (fun _ => AllocC.bind (AllocC.varint _) fun _ => AllocC.bind (AllocC.guardD _ _) fun _ => AllocC.pure _)
      fun _ => (AllocC.pure _).mono (Nat.zero_le _)).mono (by decide)

theorem wfObject_iff (hp : Bool) (o : Object) : wfObject hp o = true ↔
    o.idDelta < two64 ∧
    (if hp then wfProps o.props = true ∧ (encProps o.props).length ≤ maxPropsLen else o.props = []) ∧
    o.payload.length ≤ maxPayloadSize := by
  unfold wfObject
  cases hp <;> simp [and_assoc]

theorem object_roundtrip (hp : Bool) (o : Object) (h : wfObject hp o = true) (tail : Bytes) :
    (readObject hp (encObject hp o ++ tail)).r = .ok o tail := by
  obtain ⟨idd, props, payload⟩ := o
  obtain ⟨h1, h2, h3⟩ := (wfObject_iff _ _).mp h
  simp only at h1 h2 h3
  have hprops : ∀ rest, ((if hp = true then
        Dec.bind (bytesLP maxPropsLen .pre true) fun sub => onBytes decProps sub
      else Dec.pure []) ((if hp = true then encBytesLP (encProps props) else []) ++ rest)).r
        = .ok props rest := by
    intro rest
    cases hp with
    | false =>
      simp only [Bool.false_eq_true, if_false] at h2 ⊢
      rw [h2]
      rfl
    | true =>
      simp only [if_true] at h2 ⊢
      rw [bind_ok (bytesLP_roundtrip _ _ _ _ _ h2.2 (Nat.lt_of_le_of_lt h2.2 (by decide))), onBytes_r,
        props_roundtrip _ h2.1]
  have hlt : payload.length < 2 ^ 64 := Nat.lt_of_le_of_lt h3 (by decide)
  simp only [readObject, encObject, bind_eq, pure_eq, List.append_assoc]
  rw [bind_ok (varint_rt true _ h1 _), bind_ok (hprops _)]
  cases payload with
  | nil =>
    simp only [List.isEmpty_nil, if_true]
    rw [← (by decide : encBytesLP [] ++ encVarint 3 = [0, UInt8.ofNat objectStatusEndOfGroup]),
      List.append_assoc, bind_ok (bytesLP_roundtrip _ _ _ [] _ h3 hlt)]
    simp only [List.isEmpty_nil, if_true]
    rw [bind_ok (varint_rt true 3 (by decide) _), bind_guardD_pos]
    all_goals rfl
  | cons x xs =>
    simp only [List.isEmpty_cons, Bool.false_eq_true, if_false]
    rw [bind_ok (bytesLP_roundtrip _ _ _ _ _ h3 hlt)]
    rfl

theorem total_readSubGroup : Total readSubGroup :=
  Total.bind total_readHeader fun _ => Total.bind (total_readObject _) fun _ =>
    Total.bind (Total.guardD _ _) fun _ => Total.bind (total_readObject _) fun _ =>
    Total.bind (Total.guardD _ _) fun _ => Total.pure _

/-- allocation limit of one subgroup stream, whatever the bytes -/
def subGroupAllocLimit : Nat := 16 + 2 * objAllocLimit

theorem allocC_readSubGroup : AllocC subGroupAllocLimit readSubGroup :=
  (AllocC.bind allocC_readHeader fun _ => AllocC.bind (allocC_readObject _) fun _ =>
    AllocC.bind (AllocC.guardD _ _) fun _ => AllocC.bind (allocC_readObject _) fun _ =>
    AllocC.bind (AllocC.guardD _ _) fun _ => AllocC.pure _).mono (by decide)

theorem subgroup_roundtrip (s : SubGroup) (h : wfSubGroup s = true) (tail : Bytes) :
    (readSubGroup (encSubGroup s ++ tail)).r = .ok s tail := by
  obtain ⟨hd, objs⟩ := s
  simp only [wfSubGroup, Bool.and_eq_true] at h
  obtain ⟨hh, ho⟩ := h
  match objs, ho with
  | [o], ho =>
    simp only [Bool.and_eq_true, Bool.not_eq_true'] at ho
    have hend : wfObject hd.properties ⟨0, [], []⟩ = true := by cases hd.properties <;> decide
    simp only [readSubGroup, encSubGroup, bind_eq, pure_eq, List.flatMap_cons, List.flatMap_nil,
      List.append_nil, List.append_assoc]
    rw [bind_ok (header_roundtrip hd hh _), bind_ok (object_roundtrip _ o ho.1 _), bind_guardD_pos,
      bind_ok (object_roundtrip _ ⟨0, [], []⟩ hend _), bind_guardD_pos]
    · rfl
    · rfl
    · rw [ho.2]; rfl

end MtxVerif.C32
