/-
C13 — the inductive invariant of the reload model and its preservation (any table).
-/
import MtxVerif.Lemmas.C13

namespace MtxVerif.C13

/-- the instance of component `r` was built with (or reloaded to) the values of `conf`,
except for the (component, field) pairs in `gaps` -/
def ArgsOK (gaps : List (Nat × Nat)) (conf : Conf) (r : Row) (i : Inst) : Prop :=
  ∀ f ∈ r.reads, (r.comp, f) ∉ gaps → i.args f = conf.val f

/-- every component pointer stored in the instance points to the CURRENT instance of that component
(or is nil exactly when that component is not running) -/
def RefsOK (run : Nat → Option Inst) (r : Row) (i : Inst) : Prop :=
  ∀ c ∈ r.refs, i.refs c = (run c).map (·.id)

/-- The invariant: exactly the components whose guard holds under the current configuration are
running; each was built with the current values and points to current instances. -/
structure Consistent (gaps : List (Nat × Nat)) (G : Nat → (Nat → Nat) → Bool) (L : List Row) (s : St) :
    Prop where
  guard : ∀ r ∈ L, (s.run r.comp).isSome = G r.comp s.conf.val
  args : ∀ r ∈ L, ∀ i, s.run r.comp = some i → ArgsOK gaps s.conf r i
  refs : ∀ r ∈ L, ∀ i, s.run r.comp = some i → RefsOK s.run r i
  ids : ∀ r ∈ L, ∀ i, s.run r.comp = some i → i.id < s.next
  noPanic : s.panicked = false

/-- a guard depends only on its guard fields -/
def GuardDet (G : Nat → (Nat → Nat) → Bool) (L : List Row) : Prop :=
  ∀ r ∈ L, ∀ v v' : Nat → Nat, (∀ f ∈ r.guard, v f = v' f) → G r.comp v = G r.comp v'

/-- a block whose condition is only `p.k == nil` always creates -/
def GuardTrue (G : Nat → (Nat → Nat) → Bool) (L : List Row) : Prop :=
  ∀ r ∈ L, r.guard = [] → ∀ v, G r.comp v = true

/-- configurations are immutable objects: the same address holds the same value -/
def WFConf (old new : Conf) : Prop := ∀ f, old.addr f = new.addr f → old.val f = new.val f

theorem differs_of_val_ne {old new : Conf} (hc : WFConf old new) {f : Nat} {k : CmpKind}
    (hk : detects k = true) (hne : old.val f ≠ new.val f) : differs old new f k = true := by
  cases k with
  | value => simpa [differs] using hne
  | identity =>
    simp only [differs, bne_iff_ne, ne_eq]
    intro ha; exact hne (hc f ha)
  | unknown => cases hk

/-- a field covered by k's close closure cannot change while k's flag stays down -/
theorem val_eq_of_not_flag {old new : Conf} (hc : WFConf old new) {L : List Row} {k f : Nat}
    (hcov : coveredByClose L k f = true) (hfl : flags old new L k = false) :
    old.val f = new.val f := by
  by_cases e : old.val f = new.val f
  · exact e
  · obtain ⟨c, hcm, hc2⟩ := List.any_eq_true.mp hcov
    simp only [Bool.and_eq_true, beq_iff_eq] at hc2
    rw [flags_eq, List.any_eq_true.mpr ⟨c, hcm, hc2.1 ▸ differs_of_val_ne hc hc2.2 e⟩] at hfl
    cases hfl

theorem patch_id (old new : Conf) (r : Row) (i : Inst) : (patch old new r i).id = i.id := rfl

theorem patch_args (old new : Conf) (r : Row) (i : Inst) (f : Nat) :
    (∃ rl ∈ r.reloads, rl.field = f ∧ differs old new f rl.kind = true) ∧
      (patch old new r i).args f = new.val f ∨
    (∀ rl ∈ r.reloads, rl.field = f → differs old new f rl.kind ≠ true) ∧
      (patch old new r i).args f = i.args f := by
  simp only [patch]
  split
  · rename_i h
    obtain ⟨rl, hrl, h2⟩ := List.any_eq_true.mp h
    simp only [Bool.and_eq_true, beq_iff_eq] at h2
    exact Or.inl ⟨⟨rl, hrl, h2⟩, rfl⟩
  · rename_i h
    exact Or.inr ⟨fun rl hrl hf hd => h (List.any_eq_true.mpr ⟨rl, hrl, by simp [hf, hd]⟩), rfl⟩

theorem boot_conf (G : Nat → (Nat → Nat) → Bool) (L : List Row) (c : Conf) : (boot G L c).conf = c :=
  createAll_conf _ L _

theorem covers_row {gaps : List (Nat × Nat)} {L : List Row} (h : covers gaps L = true) {r : Row}
    (hr : r ∈ L) :
    (∀ f ∈ r.guard, coveredByClose L r.comp f = true) ∧
    (∀ f ∈ r.reads, coveredByClose L r.comp f = true ∨ coveredByReload r f = true ∨
      (r.comp, f) ∈ gaps) := by
  have := List.all_eq_true.mp h r hr
  simp only [coversRow, Bool.and_eq_true, List.all_eq_true, Bool.or_eq_true, List.contains_iff_mem,
    or_assoc] at this
  exact this

/-- the side condition of `applies_all` from the two lists of uncovered fields -/
theorem covers_of_gaps {gaps : List (Nat × Nat)} {L : List Row} (hg : guardGaps L = [])
    (ha : ∀ p ∈ actualGaps L, p ∈ gaps) : covers gaps L = true := by
  simp only [covers, coversRow, List.all_eq_true, Bool.and_eq_true, Bool.or_eq_true]
  intro r hr
  refine ⟨fun f hf => ?_, fun f hf => ?_⟩
  · cases hc : coveredByClose L r.comp f with
    | true => rfl
    | false =>
      have : (r.comp, f) ∈ guardGaps L := List.mem_flatMap.mpr
        ⟨r, hr, List.mem_map.mpr ⟨f, List.mem_filter.mpr ⟨hf, by rw [hc]; rfl⟩, rfl⟩⟩
      rw [hg] at this
      cases this
  · cases hc : (coveredByClose L r.comp f || coveredByReload r f) with
    | true => exact Or.inl (Bool.or_eq_true _ _ ▸ hc)
    | false =>
      exact Or.inr (List.contains_iff_mem.mpr (ha _ (List.mem_flatMap.mpr
        ⟨r, hr, List.mem_map.mpr ⟨f, List.mem_filter.mpr ⟨hf, by rw [hc]; rfl⟩, rfl⟩⟩)))

/-- the state between closeResources and createResources -/
def closed (L : List Row) (s : St) (new : Conf) : St :=
  { conf := new, run := midRun s.conf new (flags s.conf new L) s.run L, next := s.next,
    panicked := s.panicked || panics s.conf new (flags s.conf new L) s.run L }

section
variable {G : Nat → (Nat → Nat) → Bool} {L : List Row} {s : St} {new : Conf} {r : Row}

theorem reload_eq (G : Nat → (Nat → Nat) → Bool) (L : List Row) (s : St) (new : Conf) :
    reload G L s new = createAll (fun k => G k new.val) L (closed L s new) := rfl

theorem reload_conf (G : Nat → (Nat → Nat) → Bool) (L : List Row) (s : St) (new : Conf) :
    (reload G L s new).conf = new := createAll_conf _ L _

theorem closed_run (hw : wfl L = true) (hr : r ∈ L) (s : St) (new : Conf) : (closed L s new).run r.comp =
    if flags s.conf new L r.comp then none else (s.run r.comp).map (patch s.conf new r) :=
  midRun_mem s.conf new _ s.run hw hr

theorem reload_kept (hw : wfl L = true) (hr : r ∈ L) (hfl : flags s.conf new L r.comp = false) {i0 : Inst}
    (h : s.run r.comp = some i0) : (reload G L s new).run r.comp = some (patch s.conf new r i0) :=
  (createAll_spec _ hw hr (closed L s new)).keep _ (by rw [closed_run hw hr, hfl, h]; rfl)

theorem reload_off (hw : wfl L = true) (hr : r ∈ L) (hfl : flags s.conf new L r.comp = false)
    (h : s.run r.comp = none) (hg : G r.comp new.val = false) : (reload G L s new).run r.comp = none := by
  have h1 := (createAll_spec (fun k => G k new.val) hw hr (closed L s new)).isSome
  rw [closed_run hw hr, hfl, h, hg] at h1
  exact Option.not_isSome_iff_eq_none.mp (Bool.eq_false_iff.mp h1)

theorem reload_run (hw : wfl L = true) (hr : r ∈ L) {i : Inst} (hi : (reload G L s new).run r.comp = some i) :
    (flags s.conf new L r.comp = false ∧ ∃ i0, s.run r.comp = some i0 ∧ i = patch s.conf new r i0) ∨
    ((closed L s new).run r.comp = none ∧ i.args = new.val ∧
      (∀ c ∈ r.refs, i.refs c = ((reload G L s new).run c).map (·.id)) ∧ s.next ≤ i.id ∧
      i.id < (reload G L s new).next) := by
  have sp := createAll_spec (fun k => G k new.val) hw hr (closed L s new)
  cases h1 : (closed L s new).run r.comp with
  | none => exact Or.inr ⟨rfl, sp.fresh h1 i hi⟩
  | some j =>
    obtain rfl := Option.some.inj ((sp.keep j h1).symm.trans hi)
    rw [closed_run hw hr] at h1
    cases hfl : flags s.conf new L r.comp with
    | true => rw [hfl] at h1; cases h1
    | false =>
      rw [hfl] at h1
      cases hr' : s.run r.comp with
      | none => rw [hr'] at h1; cases h1
      | some i0 =>
        rw [hr'] at h1
        exact Or.inl ⟨rfl, i0, rfl, (Option.some.inj h1).symm⟩

end

/-- start-up establishes the invariant -/
theorem boot_consistent (gaps : List (Nat × Nat)) (G : Nat → (Nat → Nat) → Bool) (L : List Row)
    (hw : wfl L = true) (c : Conf) : Consistent gaps G L (boot G L c) := by
  have hconf := boot_conf G L c
  have sp := fun r (hr : r ∈ L) => createAll_spec (fun k => G k c.val) hw hr
    { conf := c, run := fun _ => none, next := 0 }
  refine ⟨fun r hr => ?_, fun r hr i hi f _ _ => ?_, fun r hr i hi => ((sp r hr).fresh rfl i hi).2.1,
    fun r hr i hi => ((sp r hr).fresh rfl i hi).2.2.2, createAll_panicked _ L _⟩
  · rw [hconf]; exact (sp r hr).isSome
  · rw [hconf, ((sp r hr).fresh rfl i hi).1]

/-- one reload preserves the invariant (this is `applies_all`) -/
theorem reload_consistent (gaps : List (Nat × Nat)) (G : Nat → (Nat → Nat) → Bool) (L : List Row)
    (hw : wfl L = true) (hcov : covers gaps L = true) (hrefs : refsCovered L = true)
    (hsafe : reloadsSafe L = true) (hG : GuardDet G L) (hGT : GuardTrue G L)
    (s : St) (new : Conf) (hc : WFConf s.conf new) (hs : Consistent gaps G L s) :
    Consistent gaps G L (reload G L s new) := by
  have sp : ∀ r ∈ L, Created (fun k => G k new.val) (closed L s new) (reload G L s new) r :=
    fun r hr => createAll_spec _ hw hr _
  -- a component whose flag is down keeps its guard value, hence stays on or off
  have hguard_eq : ∀ r ∈ L, flags s.conf new L r.comp = false → G r.comp s.conf.val = G r.comp new.val :=
    fun r hr hfl => hG r hr _ _ fun f hf => val_eq_of_not_flag hc ((covers_row hcov hr).1 f hf) hfl
  have hoff : ∀ r ∈ L, flags s.conf new L r.comp = false → s.run r.comp = none →
      (reload G L s new).run r.comp = none := by
    intro r hr hfl hn
    refine reload_off hw hr hfl hn ?_
    rw [← hguard_eq r hr hfl, ← hs.guard r hr, hn]; rfl
  refine ⟨fun r hr => ?_, fun r hr i hi f hf hgap => ?_, fun r hr i hi => ?_, fun r hr i hi => ?_, ?_⟩
  · -- guard
    rw [reload_conf, (sp r hr).isSome, closed_run hw hr]
    cases hfl : flags s.conf new L r.comp with
    | true => rfl
    | false =>
      show (((s.run r.comp).map _).isSome || _) = _
      rw [Option.isSome_map, hs.guard r hr, hguard_eq r hr hfl, Bool.or_self]
  · -- args
    rw [reload_conf]
    rcases reload_run hw hr hi with ⟨hfl, i0, hi0, rfl⟩ | ⟨_, ha, _⟩
    · rcases patch_args s.conf new r i0 f with ⟨_, h⟩ | ⟨hno, h⟩
      · exact h
      · rw [h, hs.args r hr i0 hi0 f hf hgap]
        rcases (covers_row hcov hr).2 f hf with h | h | h
        · exact val_eq_of_not_flag hc h hfl
        · -- reloaded in place: a change of value would have been detected
          obtain ⟨rl, hrl, h2⟩ := List.any_eq_true.mp h
          simp only [Bool.and_eq_true, beq_iff_eq] at h2
          by_cases e : s.conf.val f = new.val f
          · exact e
          · exact absurd (differs_of_val_ne hc h2.2 e) (hno rl hrl h2.1)
        · exact absurd h hgap
    · rw [ha]
  · -- refs
    rcases reload_run hw hr hi with ⟨hfl, i0, hi0, rfl⟩ | ⟨_, _, h, _⟩
    · intro c hcm
      show i0.refs c = _
      rw [hs.refs r hr i0 hi0 c hcm]
      -- c's flag is down too, hence c is the same instance or stays absent
      have hcdep : c ∈ depClosure L r.comp :=
        List.contains_iff_mem.mp (List.all_eq_true.mp (List.all_eq_true.mp hrefs r hr) c hcm)
      have hflc : flags s.conf new L c = false := by
        cases h : flags s.conf new L c with
        | false => rfl
        | true => rw [(flags_of_dep s.conf new L r.comp c hw hcdep).2 h] at hfl; cases hfl
      obtain ⟨rc, hrc, rfl⟩ := List.mem_map.mp (refs_in_comps hw hr c hcm)
      cases hsc : s.run rc.comp with
      | some ic => rw [reload_kept hw hrc hflc hsc]; rfl
      | none => rw [hoff rc hrc hflc hsc]
    · exact h
  · -- ids
    rcases reload_run hw hr hi with ⟨_, i0, hi0, rfl⟩ | ⟨_, _, _, _, h⟩
    · exact Nat.lt_of_lt_of_le (hs.ids r hr i0 hi0) (createAll_next_le _ L (closed L s new))
    · exact h
  · -- no nil dereference
    rw [reload_eq, createAll_panicked]
    show (s.panicked || panics s.conf new (flags s.conf new L) s.run L) = false
    rw [hs.noPanic, Bool.false_or]
    apply Bool.eq_false_iff.mpr
    intro hp
    obtain ⟨r, hr, h⟩ := List.any_eq_true.mp hp
    simp only [Bool.and_eq_true, Bool.not_eq_true', List.any_eq_true] at h
    obtain ⟨⟨_, hnone⟩, rl, hrl, hnc, _⟩ := h
    -- an in-place reload without nil check belongs to a component that is always created
    have hsafe' := List.all_eq_true.mp (List.all_eq_true.mp hsafe r hr) rl hrl
    rw [hnc, Bool.false_or] at hsafe'
    have : (s.run r.comp).isSome = true := by
      rw [hs.guard r hr]; exact hGT r hr (List.isEmpty_iff.mp hsafe') _
    rw [Option.isNone_iff_eq_none.mp hnone] at this
    cases this

end MtxVerif.C13
