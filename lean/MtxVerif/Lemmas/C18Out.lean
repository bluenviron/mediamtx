/- PathSM: every helper only appends to the output list (prefix form); a step keeps the stream or closes every
reader attached before it. -/
import MtxVerif.Lemmas.C18Keeps

namespace MtxVerif.PathSM

section
variable {l : List Out} {w : W}

theorem pre_emit (o : Out) (h : l <+: w.out) : l <+: (emit o w).out := h.trans (List.prefix_append _ _)

theorem keeps_pre (l : List Out) : Keeps False (fun w => l <+: w.out) where
  plain o _ _ h := pre_emit o h
  frame _ _ _ h := h
  fire _ _ _ _ h := pre_emit _ h

theorem pre_executeRemovePublisher (h : l <+: w.out) : l <+: (executeRemovePublisher w).out :=
  executeRemovePublisher_keeps (keeps_pre l) h

theorem pre_closeCheck (h : l <+: w.out) : l <+: (closeCheck w).out := closeCheck_keeps (keeps_pre l) h

theorem pre_failHolds (k : ReplyKind) (h : l <+: w.out) : l <+: (failHolds k w).out :=
  (h.trans (List.prefix_append _ _)).trans (List.prefix_append _ _)

theorem pre_replyStream (rid : Nat) (h : l <+: w.out) : l <+: (replyStream rid w).out := by
  unfold replyStream; split <;> exact pre_emit _ h

theorem pre_addReaderPost (rid r : Nat) (h : l <+: w.out) : l <+: (addReaderPost rid r w).out := by
  obtain ⟨l', k, e, _⟩ := addReaderPost_out rid r w
  rw [e, List.append_assoc]; exact h.trans (List.prefix_append _ _)

theorem pre_consume (h : l <+: w.out) : l <+: (consumeOnHoldRequests w).out :=
  consume_keeps (R := fun w => l <+: w.out) (fun _ _ => pre_replyStream _) (fun _ _ _ => pre_addReaderPost _ _)
    (fun _ h => h) (fun _ h => h) h

theorem pre_pubAttach (p : Nat) (ok : Bool) (h : l <+: w.out) : l <+: (pubAttach p ok w).out :=
  pubAttach_keeps (keeps_pre l) p ok (fun _ => pre_consume) nofun h

end

variable {x : Out} {w : W}

/-- the key fact: `setNotAvailable` calls `Close()` on every attached reader -/
theorem setNotAvailable_closes (r : Nat) (hr : r ∈ w.s.readers) :
    Out.readerClosed r ∈ (setNotAvailable w).out := by
  unfold setNotAvailable
  dsimp only
  have h1 : Out.readerClosed r ∈ (closeReaders (setOffline (emit .pathNotReady w))).out := by
    simp only [closeReaders, setOffline_s, emit_s]
    exact List.mem_append_right _ (List.mem_map.mpr ⟨r, hr, rfl⟩)
  split <;> simp [h1, panic]

theorem mem_of_pre {w' : W} (hp : w.out <+: w'.out) (h : x ∈ w.out) : x ∈ w'.out := hp.subset h

theorem mem_panic (h : x ∈ w.out) : x ∈ (panic w).out := mem_of_pre (panic_keeps (keeps_pre _) List.prefix_rfl) h
theorem mem_executeRemovePublisher (h : x ∈ w.out) : x ∈ (executeRemovePublisher w).out :=
  mem_of_pre (pre_executeRemovePublisher List.prefix_rfl) h
theorem mem_srcStart (h : x ∈ w.out) : x ∈ (srcStart w).out := mem_of_pre (srcStart_keeps (keeps_pre _) List.prefix_rfl) h
theorem mem_onDemandPublisherStop (h : x ∈ w.out) : x ∈ (onDemandPublisherStop w).out :=
  mem_of_pre (onDemandPublisherStop_keeps (keeps_pre _) List.prefix_rfl) h
theorem mem_failHolds (k : ReplyKind) (h : x ∈ w.out) : x ∈ (failHolds k w).out :=
  mem_of_pre (pre_failHolds k List.prefix_rfl) h

theorem consume_stream (w : W) : (consumeOnHoldRequests w).s.stream = w.s.stream :=
  (congrArg State.stream (consume_frame w) :)

/-- on an alwaysAvailable path the arrival of a feeder keeps the stream -/
theorem fed_stream_aa {s : State} {w1 : W} (haa : s.conf.alwaysAvailable = true) (e : w1.s.stream = (fed s).stream) :
    (consumeOnHoldRequests w1).s.stream = s.stream := by
  rw [consume_stream, e]; simp [fed, haa]

theorem fireTimer_teardown (t : Timer) (w : W) :
    (fireTimer t w).s.stream = w.s.stream ∨ ∀ r ∈ w.s.readers, Out.readerClosed r ∈ (fireTimer t w).out := by
  cases t <;> unfold fireTimer <;> dsimp only
  · left; rw [closeCheck_s]; simp [doOnDemandStaticSourceReadyTimer, onDemandStaticSourceStop_s, failHolds_s]
  · unfold doOnDemandStaticSourceCloseTimer
    split
    · left; rw [closeCheck_s]; simp [panic]
    · right; intro r hr
      exact mem_of_pre (pre_closeCheck (onDemandStaticSourceStop_keeps (keeps_pre _) List.prefix_rfl)) (setNotAvailable_closes (w := upd _ w) r hr)
  · left; rw [closeCheck_s]; simp [doOnDemandPublisherReadyTimer, onDemandPublisherStop_s, failHolds_s]
  · left; simp [doOnDemandPublisherCloseTimer, onDemandPublisherStop_s]

theorem doClose_closes (w : W) (hs : w.s.stream.isSome = true) (r : Nat) (hr : r ∈ w.s.readers) :
    Out.readerClosed r ∈ (doClose w).out := by
  unfold doClose
  dsimp only
  rw [if_pos hs]
  apply setNotAvailable_closes
  have e1 : ∀ w1 : W, (if w.s.hkDemand = true then emit (Out.hook Hook.demand false) (upd (fun s => { s with hkDemand := false }) w1) else w1).s.readers = w1.s.readers := by
    intro w1; split <;> rfl
  rw [e1, closeSource_s]
  split <;> simp [srcStop_s, failHolds_s, hr]

/-- One step keeps the path's stream or calls `Close()` on every reader attached before it.  The stream goes away
through `setNotAvailable` only (publisher removed or replaced, static source not ready, close timer, `close`), which
closes the readers; on a path without stream there are no readers. -/
theorem stepW_teardown (e : Event) (w : W) (h : Inv w.s) :
    (stepW e w).s.stream = w.s.stream ∨ ∀ r ∈ w.s.readers, Out.readerClosed r ∈ (stepW e w).out := by
  have no_readers : w.s.stream = none → ∀ (l : List Out), ∀ r ∈ w.s.readers, Out.readerClosed r ∈ l := by
    intro hn _ r hr
    have := h.avail.r3 (List.ne_nil_of_mem hr)
    rw [hn] at this; cases this
  have execRemove : ∀ w0 : W, w0.s = w.s →
      (w.s.conf.alwaysAvailable = true ∧ (executeRemovePublisher w0).s.stream = w.s.stream) ∨
      ∀ r ∈ w.s.readers, Out.readerClosed r ∈ (executeRemovePublisher w0).out := by
    intro w0 e0
    unfold executeRemovePublisher
    dsimp only
    split
    · rename_i haa
      exact Or.inl ⟨e0 ▸ haa, by simp [setOffline_s, startOffline_s, e0]⟩
    · right; intro r hr; exact setNotAvailable_closes r (e0 ▸ hr)
  refine stepW_cases (P := fun _ w' => w'.s.stream = w.s.stream ∨ ∀ r ∈ w.s.readers, Out.readerClosed r ∈ w'.out) e w h
    (cc := fun _ w' ih => ih.imp (fun e1 => by rw [closeCheck_s, e1]) (fun c r hr => mem_of_pre (pre_closeCheck List.prefix_rfl) (c r hr)))
    (reply := fun _ _ _ _ => Or.inl rfl) (pubReply := fun _ _ _ => Or.inl rfl) (ignored := fun _ _ => Or.inl rfl)
    (nop := fun _ _ => Or.inl rfl) (write := fun _ => Or.inl rfl) (detach := fun _ => Or.inl rfl)
    (descHold := fun _ _ _ _ => Or.inl (by simp [holdDemand_s]))
    (readHold := fun _ _ _ _ _ => Or.inl (by simp [holdDemand_s]))
    (readPost := fun rid r _ _ => Or.inl (congrArg State.stream (addReaderPost_frame rid r w) :))
    (pubFresh := ?_) (pubReplace := ?_)
    (removePublisher := fun _ _ _ => (execRemove w rfl).imp_left And.right)
    (removeReader := fun _ _ => Or.inl (by rw [doRemoveReader_s]))
    (srcReady := ?_) (srcNotReady := ?_)
    (timer := fun t _ _ => fireTimer_teardown t w)
    (reload := fun _ _ _ => Or.inl rfl)
    (close := ?_)
  · -- a publisher path without source has no stream unless it is alwaysAvailable
    intro p ok hc hk hsrc
    by_cases haa : w.s.conf.alwaysAvailable = true
    · exact Or.inl (pubAttach_cases (Q := fun s => s.stream = w.s.stream) p ok w h hc hk hsrc rfl
        fun w2 e _ _ => fed_stream_aa haa (by rw [e]; rfl))
    · exact Or.inr (no_readers (h.unfed (by simpa using haa) (Or.inl ⟨hk, hsrc⟩)) _)
  · intro p ok q w1 _ _ e1 i1 i2 i3 i4
    rcases execRemove (emit (.pubClosed q) w) rfl with ⟨haa, hk⟩ | hcl
    · left
      have haa1 : w1.s.conf.alwaysAvailable = true := by rw [e1, executeRemovePublisher_s]; exact haa
      rw [← hk, ← e1]
      exact pubAttach_cases (Q := fun s => s.stream = w1.s.stream) p ok w1 i1 i2 i3 i4 rfl
        fun w2 e _ _ => fed_stream_aa haa1 (by rw [e]; rfl)
    · exact Or.inr fun r hr => mem_of_pre (pre_pubAttach p ok List.prefix_rfl) (e1 ▸ hcl r hr)
  · -- the static source was not up, so there was no stream unless the path is alwaysAvailable
    intro ok hc hg
    by_cases haa : w.s.conf.alwaysAvailable = true
    · exact Or.inl (srcReady_cases (Q := fun s => s.stream = w.s.stream) ok w h hc hg rfl
        fun w2 e _ _ => fed_stream_aa haa (by rw [e]; rfl))
    · exact Or.inr (no_readers (h.unfed (by simpa using haa) (Or.inr ⟨h.kind.kStatic.mpr hg.1, by simpa using hg.2.2⟩)) _)
  · intro _ _
    unfold doSourceStaticSetNotReady
    dsimp only
    by_cases haa : w.s.conf.alwaysAvailable = true
    · left
      simp only [haa, if_true]
      (repeat' split) <;> simp [setOffline_s, startOffline_s, onDemandStaticSourceStop_s]
    · right; intro r hr
      rw [if_neg haa]
      have h1 : Out.readerClosed r ∈ (upd (fun s => { s with srcSub := none, srcUp := false }) (setNotAvailable w)).out :=
        setNotAvailable_closes r hr
      split
      · exact mem_of_pre (onDemandStaticSourceStop_keeps (keeps_pre _) List.prefix_rfl) h1
      · exact h1
  · intro _
    cases hs : w.s.stream with
    | some sid => exact Or.inr (doClose_closes w (by rw [hs]; rfl))
    | none => exact Or.inr (no_readers hs _)

theorem teardown_stepW (e : Event) (w : W) (h : Inv w.s) (sid : Nat) (hs : w.s.stream = some sid)
    (hch : (stepW e w).s.stream ≠ some sid) :
    ∀ r ∈ w.s.readers, Out.readerClosed r ∈ (stepW e w).out :=
  (stepW_teardown e w h).resolve_left fun e1 => hch (e1.trans hs)

end MtxVerif.PathSM
