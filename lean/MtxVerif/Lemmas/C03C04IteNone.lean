/-
The executable specs of C03 and C04 are chains of `if … then some "complaint" else …` ending in `none`.
That such a chain answers `none` is read as a proposition with this one rule.
-/
namespace MtxVerif

theorem ite_eq_none {α} {c : Prop} [Decidable c] {a b : Option α} :
    (if c then a else b) = none ↔ (c ∧ a = none) ∨ (¬ c ∧ b = none) := by
  split <;> simp [*]

end MtxVerif
