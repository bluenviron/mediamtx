/-
C13 — second half of the property (components none of whose parameters changed keep running) and the
converse results: an uncovered constructor field / an identity comparison really breaks the property.
-/
import MtxVerif.Lemmas.C13Main

namespace MtxVerif.C13

theorem tight_iff {L : List Row} : tight L = true ↔ ∀ r ∈ L, (∀ c ∈ r.cmp, c.field ∈ r.reads ++ r.guard) ∧
    (∀ d ∈ r.deps, d ∈ r.refs) ∧ ∀ rl ∈ r.reloads, rl.field ∈ r.reads ∧ rl.kind = .value := by
  induction L with
  | nil => simp [tight]
  | cons r E ih =>
    simp only [tight, List.forall_mem_cons, ← ih, Bool.and_eq_true, List.all_eq_true, List.contains_iff_mem,
      beq_iff_eq, and_assoc]

/-- under `tight`, everything k's close closure compares is a parameter of k -/
theorem cmpClosure_sub_param : ∀ (L : List Row) (k : Nat), tight L = true →
    ∀ c ∈ cmpClosure L k, c.field ∈ paramClosure L k
  | [], _, _, c, h => nomatch h
  | r :: E, k, ht, c, h => by
    obtain ⟨⟨hcmp, hdeps, _⟩, htE⟩ := List.forall_mem_cons.mp (tight_iff.mp ht)
    rw [← tight_iff] at htE
    by_cases hk : k = r.comp
    · simp only [cmpClosure, hk, if_true, List.mem_append, List.mem_flatMap] at h
      simp only [paramClosure, hk, if_true, List.mem_append, List.mem_flatMap]
      rcases h with h | ⟨d, hd, hc⟩
      · exact Or.inl (List.mem_append.mp (hcmp c h))
      · exact Or.inr ⟨d, hdeps d hd, cmpClosure_sub_param E d htE c hc⟩
    · simp only [cmpClosure, hk, if_false] at h
      simp only [paramClosure, hk, if_false]
      exact cmpClosure_sub_param E k htE c h

theorem cmpClosure_sub_rows : ∀ (L : List Row) (k : Nat), ∀ c ∈ cmpClosure L k, ∃ r ∈ L, c ∈ r.cmp
  | [], _, _, h => nomatch h
  | r :: E, k, c, h => by
    unfold cmpClosure at h
    split at h
    · rcases List.mem_append.mp h with h | h
      · exact ⟨r, List.mem_cons_self, h⟩
      · obtain ⟨d, _, hc⟩ := List.mem_flatMap.mp h
        obtain ⟨r', hr', hc'⟩ := cmpClosure_sub_rows E d c hc
        exact ⟨r', List.mem_cons_of_mem _ hr', hc'⟩
    · obtain ⟨r', hr', hc'⟩ := cmpClosure_sub_rows E k c h
      exact ⟨r', List.mem_cons_of_mem _ hr', hc'⟩

theorem own_sub_param {L : List Row} (hw : wfl L = true) {r : Row} (hr : r ∈ L) :
    ∀ f ∈ r.reads ++ r.guard, f ∈ paramClosure L r.comp :=
  wfl_rec L r hw hr (fun _ _ _ f hf => by simp only [paramClosure, if_true]; exact List.mem_append_left _ hf)
    (fun _ _ _ _ _ hne ih => by simp only [paramClosure, hne, if_false]; exact ih)

theorem own_sub_cmpClosure {L : List Row} (hw : wfl L = true) {r : Row} (hr : r ∈ L) :
    ∀ c ∈ r.cmp, c ∈ cmpClosure L r.comp :=
  wfl_rec L r hw hr (fun _ _ _ c hc => by simp only [cmpClosure, if_true]; exact List.mem_append_left _ hc)
    (fun _ _ _ _ _ hne ih => by simp only [cmpClosure, hne, if_false]; exact ih)

/-- `keeps_unchanged`: a component none of whose parameters (own constructor fields, guard, and the
parameters of the components it points to, transitively) changed value is the SAME instance after
the reload — provided no pointer that its close closure compares by identity changed address. -/
theorem keeps_unchanged (gaps : List (Nat × Nat)) (G : Nat → (Nat → Nat) → Bool) (L : List Row)
    (hw : wfl L = true) (ht : tight L = true) (hG : GuardDet G L)
    (s : St) (new : Conf) (hs : Consistent gaps G L s) (r : Row) (hr : r ∈ L)
    (hsame : ∀ f ∈ paramClosure L r.comp, s.conf.val f = new.val f)
    (hid : ∀ f ∈ identityClosure L r.comp, s.conf.addr f = new.addr f) :
    (reload G L s new).run r.comp = s.run r.comp := by
  -- the flag stays down: whatever the closure compares is a parameter, or an identity comparison
  have hfl : flags s.conf new L r.comp = false := by
    refine flags_false fun c hcm hd => ?_
    have hp := cmpClosure_sub_param L r.comp ht c hcm
    cases hk : c.kind with
    | value =>
      rw [hk] at hd
      exact bne_iff_ne.mp hd (hsame _ hp)
    | identity =>
      rw [hk] at hd
      refine bne_iff_ne.mp hd (hid _ ?_)
      simp only [identityClosure, List.mem_map, List.mem_filter, beq_iff_eq]
      exact ⟨c, ⟨hcm, hk⟩, rfl⟩
    | unknown => rw [hk] at hd; cases hd
  -- in-place reloads do nothing: they are value comparisons of constructor fields
  have hpatch : ∀ i, patch s.conf new r i = i := by
    intro i
    have : (patch s.conf new r i).args = i.args := by
      funext f
      rcases patch_args s.conf new r i f with ⟨⟨rl, hrl, hf, hd⟩, _⟩ | ⟨_, h⟩
      · obtain ⟨hrd, hv⟩ := (tight_iff.mp ht r hr).2.2 rl hrl
        rw [hv] at hd
        exact absurd (hsame f (own_sub_param hw hr f (List.mem_append_left _ (hf ▸ hrd)))) (bne_iff_ne.mp hd)
      · exact h
    exact congrArg (fun a => { i with args := a }) this
  cases h : s.run r.comp with
  | some i => rw [reload_kept hw hr hfl h, hpatch]
  | none =>
    -- it was off and its guard fields are parameters
    refine reload_off hw hr hfl h ?_
    rw [← hG r hr s.conf.val new.val fun f hf => hsame f (own_sub_param hw hr f (List.mem_append_right _ hf)),
      ← hs.guard r hr, h]
    rfl

def allOn : Nat → (Nat → Nat) → Bool := fun _ _ => true

theorem allOn_det (L : List Row) : GuardDet allOn L := fun _ _ _ _ _ => rfl
theorem allOn_true (L : List Row) : GuardTrue allOn L := fun _ _ _ _ => rfl

def conf0 : Conf := { val := fun _ => 0, addr := fun _ => 0 }
/-- only field f gets a new value (and, being a new object, a new address) -/
def confFlip (f : Nat) : Conf :=
  { val := fun x => if x = f then 1 else 0, addr := fun x => if x = f then 1 else 0 }
/-- same values everywhere, but the object holding field f was re-allocated -/
def confRealloc (f : Nat) : Conf :=
  { val := fun _ => 0, addr := fun x => if x = f then 1 else 0 }

theorem wfconf_flip (f : Nat) : WFConf conf0 (confFlip f) := fun _ h => h

theorem wfconf_realloc (f : Nat) : WFConf conf0 (confRealloc f) := fun _ _ => rfl

theorem boot_allOn_runs (L : List Row) (hw : wfl L = true) {r : Row} (hr : r ∈ L) :
    ∃ i, (boot allOn L conf0).run r.comp = some i :=
  Option.isSome_iff_exists.mp ((boot_consistent [] allOn L hw conf0).guard r hr)

/-- If component r reads field f in its constructor but f is neither compared by r's close closure
nor reloaded in place, then there is a reload (from a consistent state, between well-formed
configurations differing exactly in f) after which r still runs with the OLD value of f. -/
theorem gap_is_stale (L : List Row) (hw : wfl L = true) (r : Row) (hr : r ∈ L) (f : Nat)
    (hread : f ∈ r.reads)
    (hnc : coveredByClose L r.comp f = false) (hnr : coveredByReload r f = false) :
    ∃ i, (reload allOn L (boot allOn L conf0) (confFlip f)).run r.comp = some i ∧
      i.args f ≠ (confFlip f).val f := by
  have hs := boot_consistent [] allOn L hw conf0
  have hsc := boot_conf allOn L conf0
  obtain ⟨i0, hi0⟩ := boot_allOn_runs L hw hr
  -- only f differs, in value and in address
  have hdiff : ∀ (x : Nat) (k : CmpKind), differs conf0 (confFlip f) x k = true → x = f ∧ detects k = true := by
    intro x k h
    by_cases hx : x = f
    · exact ⟨hx, by cases k <;> first | rfl | cases h⟩
    · cases k <;> simp [differs, conf0, confFlip, hx] at h
  -- so r's flag stays down and no in-place reload touches f
  have hfl : flags conf0 (confFlip f) L r.comp = false := by
    refine flags_false fun c hcm hd => ?_
    obtain ⟨hx, hk⟩ := hdiff _ _ hd
    have : coveredByClose L r.comp f = true := List.any_eq_true.mpr ⟨c, hcm, by simp [hx, hk]⟩
    rw [hnc] at this
    cases this
  refine ⟨_, reload_kept hw hr (by rw [hsc]; exact hfl) hi0, ?_⟩
  rw [hsc]
  rcases patch_args conf0 (confFlip f) r i0 f with ⟨⟨rl, hrl, hf, hd⟩, _⟩ | ⟨_, h⟩
  · have : coveredByReload r f = true := List.any_eq_true.mpr ⟨rl, hrl, by simp [hf, (hdiff _ _ hd).2]⟩
    rw [hnr] at this
    cases this
  · rw [h, hs.args r hr i0 hi0 f hread (by simp), hsc]
    simp [conf0, confFlip]

/-- If r's own close predicate compares a field by pointer identity, then there is a reload between
configurations with IDENTICAL values (only the object holding that field was re-allocated, as happens on every
re-parse or Clone of the configuration) that nevertheless replaces r by a new instance. -/
theorem identity_cmp_recreates (L : List Row) (hw : wfl L = true) (r : Row) (hr : r ∈ L) (c : Cmp)
    (hc : c ∈ r.cmp) (hk : c.kind = .identity) :
    ∃ i j, (boot allOn L conf0).run r.comp = some i ∧
      (reload allOn L (boot allOn L conf0) (confRealloc c.field)).run r.comp = some j ∧ i.id ≠ j.id := by
  have hs := boot_consistent [] allOn L hw conf0
  obtain ⟨i0, hi0⟩ := boot_allOn_runs L hw hr
  have hfl : flags (boot allOn L conf0).conf (confRealloc c.field) L r.comp = true := by
    rw [flags_eq, boot_conf]
    exact List.any_eq_true.mpr ⟨c, own_sub_cmpClosure hw hr c hc, by simp [hk, differs, conf0, confRealloc]⟩
  have sp := createAll_spec (fun k => allOn k (confRealloc c.field).val) hw hr
    (closed L (boot allOn L conf0) (confRealloc c.field))
  obtain ⟨j, hj⟩ := Option.isSome_iff_exists.mp (sp.isSome.trans (Bool.or_true _))
  refine ⟨i0, j, hi0, hj, Nat.ne_of_lt (Nat.lt_of_lt_of_le (hs.ids r hr i0 hi0) ?_)⟩
  rcases reload_run hw hr hj with ⟨h, _⟩ | ⟨_, _, _, h, _⟩
  · rw [hfl] at h; cases h
  · exact h

end MtxVerif.C13
