/-
C21 — hook commands receive values verbatim and report their exit status.  Property theorems
(everything that does not depend on the regenerated source facts; the ties are in Props/C21.lean, so that
a fact the extractor no longer finds breaks ONLY the tie theorems).

Reading guide (statement → theorem):
* "substituted into single arguments without changing how the command is split"
    → `argv_elementwise`, `argc_independent_of_values`, `expand_tokens` (single pass), `expand_clean`
* "reach the command exactly … when referenced"     → `value_verbatim`, `arg_verbatim`
* "reach the command exactly as environment variables" → `env_passed`
* "a non-zero status is reported as failed with that status" → `ExitReported_full` (def, FALSE on the
   pinned tree: `exit_reported_witness`), `exit_reported_partial`, `exit_reported_fixed`, `exit_current`
-/
import MtxVerif.Model.C21

namespace MtxVerif.C21

-- found at once; the search otherwise walks the order classes of `UInt8` at every use
local instance : LawfulBEq UInt8 := instLawfulBEq

theorem identStart_not_special {c : UInt8} (h : isIdentStart c = true) : isSpecial c = false := by
  simp only [isIdentStart, isSpecial, Bool.or_eq_true, Bool.and_eq_true, beq_iff_eq, decide_eq_true_eq] at h ⊢
  simp only [Bool.or_eq_false_iff, Bool.and_eq_false_iff, beq_eq_false_iff_ne, ne_eq, decide_eq_false_iff_not]
  omega

theorem identStart_alnum {c : UInt8} (h : isIdentStart c = true) : isAlnum c = true := by
  -- the three alternatives of `isIdentStart` are among the four of `isAlnum`
  simp only [isIdentStart, isAlnum, Bool.or_eq_true] at h ⊢
  rcases h with (h | h) | h
  · exact .inl (.inl (.inl h))
  · exact .inl (.inr h)
  · exact .inr h

theorem identStart_ne_lbrace {c : UInt8} (h : isIdentStart c = true) : (c == LBRACE) = false := by
  rw [beq_eq_false_iff_ne]
  intro e; subst e
  revert h; decide

theorem alnum_ne_rbrace {c : UInt8} (h : isAlnum c = true) : (c != RBRACE) = true := by
  rw [bne_iff_ne]
  intro e; subst e
  revert h; decide

theorem isIdent_cons {k : Bytes} (h : isIdent k = true) :
    ∃ c r, k = c :: r ∧ isIdentStart c = true ∧ r.all isAlnum = true := by
  cases k with
  | nil => simp [isIdent] at h
  | cons c r =>
    simp only [isIdent, Bool.and_eq_true] at h
    exact ⟨c, r, rfl, h.1, h.2⟩

theorem expandGo_skip (f : Bytes → Bytes) (n : Nat) (s : Bytes) :
    expandGo f n s = expandGo f 0 (s.drop n) := by
  induction n generalizing s with
  | zero => rfl
  | succ n ih =>
    cases s with
    | nil => rfl
    | cons _ r => exact ih r

inductive Tok where
  | lit (c : UInt8)      -- byte copied
  | ref (name : Bytes)   -- replaced by the value of `name`
  | eaten                -- invalid syntax (`${}`, `${` without `}`): characters dropped
  | dollar               -- `$` not followed by a name: kept
deriving Repr, DecidableEq

/-- tokenisation of a word; defined without any reference to the variable values -/
def tokens : Nat → Bytes → List Tok
  | _, [] => []
  | k + 1, _ :: r => tokens k r
  | 0, c :: r =>
    if c == DOLLAR && !r.isEmpty then
      let nw := getShellName r
      (if nw.1.isEmpty then (if nw.2 > 0 then Tok.eaten else Tok.dollar) else Tok.ref nw.1) :: tokens nw.2 r
    else Tok.lit c :: tokens 0 r

def render (f : Bytes → Bytes) : Tok → Bytes
  | .lit c => [c]
  | .ref n => f n
  | .eaten => []
  | .dollar => [DOLLAR]

theorem render_tok (f : Bytes → Bytes) (n : Bytes) (w : Nat) :
    render f (if n.isEmpty then (if w > 0 then Tok.eaten else Tok.dollar) else Tok.ref n) = emit f n w := by
  unfold emit
  split
  · split <;> rfl
  · rfl

/-- **Single pass.** The expansion is the concatenation, token by token, of a tokenisation that is
computed from the word alone; each reference contributes the value exactly as it is, and the value is
never looked at again (it can neither introduce nor destroy a reference). -/
theorem expand_tokens (f : Bytes → Bytes) : ∀ (s : Bytes) (k : Nat),
    expandGo f k s = (tokens k s).flatMap (render f) := by
  intro s
  induction s with
  | nil => intro k; cases k <;> rfl
  | cons c r ih =>
    intro k
    cases k with
    | succ k => exact ih k
    | zero =>
      simp only [expandGo, tokens]
      split
      · rw [List.flatMap_cons, render_tok, ← ih]
      · rw [List.flatMap_cons, ← ih]; rfl

/-- Two variable maps that agree on the names referenced by a word give the same argument. -/
theorem expand_congr (f g : Bytes → Bytes) (s : Bytes)
    (h : ∀ n, Tok.ref n ∈ tokens 0 s → f n = g n) : expand f s = expand g s := by
  unfold expand
  rw [expand_tokens, expand_tokens]
  generalize tokens 0 s = ts at h
  induction ts with
  | nil => rfl
  | cons t ts ih =>
    rw [List.flatMap_cons, List.flatMap_cons, ih (fun n hn => h n (List.mem_cons_of_mem _ hn))]
    congr 1
    cases t with
    | ref n => exact h n List.mem_cons_self
    | _ => rfl

/-- A word without `$` is passed unchanged. -/
theorem expand_no_dollar (f : Bytes → Bytes) (s : Bytes) (h : ∀ c ∈ s, (c == DOLLAR) = false) :
    expand f s = s := by
  unfold expand
  induction s with
  | nil => rfl
  | cons c r ih =>
    simp only [expandGo, h c List.mem_cons_self, Bool.false_and]
    rw [ih (fun c hc => h c (List.mem_cons_of_mem _ hc))]
    rfl

theorem takeWhile_head {p : UInt8 → Bool} {d c : UInt8} {t r : Bytes}
    (h : (d :: t).takeWhile p = c :: r) : d = c := by
  rw [List.takeWhile_cons] at h
  split at h
  · exact (List.cons.inj h).1
  · cases h

/-- bare reference: `$IDENT` where the identifier is the maximal alphanumeric run -/
theorem getShellName_bare (s : Bytes) (h : isIdent (s.takeWhile isAlnum) = true) :
    getShellName s = (s.takeWhile isAlnum, (s.takeWhile isAlnum).length) := by
  obtain ⟨c, r, hk, hc, _⟩ := isIdent_cons h
  cases s with
  | nil => cases hk
  | cons d t =>
    obtain rfl := takeWhile_head hk
    simp only [getShellName, identStart_ne_lbrace hc, identStart_not_special hc]
    rfl

/-- braced reference: `${IDENT}` -/
theorem getShellName_braced (t : Bytes) (hlt : (t.takeWhile (· != RBRACE)).length < t.length)
    (h : isIdent (t.takeWhile (· != RBRACE)) = true) :
    getShellName (LBRACE :: t) =
      (t.takeWhile (· != RBRACE), (t.takeWhile (· != RBRACE)).length + 2) := by
  obtain ⟨c, r, hk, hc, _⟩ := isIdent_cons h
  have hscan : braceScan t = (t.takeWhile (· != RBRACE), (t.takeWhile (· != RBRACE)).length + 2) := by
    simp only [braceScan, hlt, if_true]
    rw [hk]; rfl
  rw [← hscan]
  cases t with
  | nil => cases hk
  | cons d t' =>
    obtain rfl := takeWhile_head hk
    -- the one-character special names `${*}` … do not apply: `d` starts an identifier
    cases t' <;> simp only [getShellName, identStart_not_special hc, Bool.false_and] <;> rfl

/-- **Substitution theorem.** For every word all of whose `$` start `$IDENT` / `${IDENT}` (the only
forms in the documentation; `cleanParse` is decidable and independent of the values), the argument
is the word with each reference replaced, once and left to right, by the value — whatever bytes the
values contain. -/
theorem expand_clean_go (f : Bytes → Bytes) : ∀ (s : Bytes) (k : Nat) (p : List (Sum UInt8 Bytes)),
    cleanGo k s = some p → expandGo f k s = renderPieces f p := by
  intro s
  induction s with
  | nil => intro k p h; rw [cleanGo] at h; cases h; rw [expandGo]; rfl
  | cons c r ih =>
    intro k p h
    cases k with
    | succ k => exact ih k p h
    | zero =>
    simp only [cleanGo] at h
    rw [expandGo]
    cases hc : c == DOLLAR
    · -- a literal byte
      rw [hc, if_neg Bool.false_ne_true] at h
      obtain ⟨p', hp', rfl⟩ := Option.map_eq_some_iff.mp h
      rw [Bool.false_and, if_neg Bool.false_ne_true, ih 0 p' hp']
      rfl
    · rw [hc, if_pos rfl] at h
      cases r with
      | nil => cases h
      | cons d r' =>
        rw [Bool.true_and, List.isEmpty_cons, Bool.not_false, if_pos rfl]
        simp only at h
        cases hd : d == LBRACE
        · -- `$IDENT`
          rw [hd, if_neg Bool.false_ne_true] at h
          split at h
          · rename_i hid
            obtain ⟨p', hp', rfl⟩ := Option.map_eq_some_iff.mp h
            obtain ⟨c1, r1, hk, _, _⟩ := isIdent_cons hid
            simp only [getShellName_bare (d :: r') hid, ih _ p' hp', emit]
            rw [hk]; rfl
          · cases h
        · -- `${IDENT}`
          obtain rfl : d = LBRACE := eq_of_beq hd
          rw [hd, if_pos rfl] at h
          split at h
          · rename_i hcond
            simp only [Bool.and_eq_true, decide_eq_true_eq] at hcond
            obtain ⟨p', hp', rfl⟩ := Option.map_eq_some_iff.mp h
            obtain ⟨c1, r1, hk, _, _⟩ := isIdent_cons hcond.2
            have e := ih _ p' hp'
            rw [expandGo] at e
            simp only [getShellName_braced r' hcond.1 hcond.2, expandGo, e, emit]
            rw [hk]; rfl
          · cases h
theorem expand_clean (f : Bytes → Bytes) (s : Bytes) (p : List (Sum UInt8 Bytes))
    (h : cleanParse s = some p) : expand f s = renderPieces f p :=
  expand_clean_go f s 0 p h

/-- **Value verbatim.** A word that is exactly `$K` or `${K}` becomes the value of `K`, byte for byte. -/
theorem value_verbatim (f : Bytes → Bytes) (s k : Bytes) (h : pureRef s = some k) :
    expand f s = f k := by
  unfold pureRef at h
  split at h
  · rename_i n hp
    cases h
    rw [expand_clean f s _ hp]
    simp [renderPieces]
  · cases h

theorem expand_whole_ref (f : Bytes → Bytes) {rest k : Bytes} (hk : k.isEmpty = false)
    (hne : rest.isEmpty = false) (hg : getShellName rest = (k, rest.length)) :
    expand f (DOLLAR :: rest) = f k := by
  have hd : (DOLLAR == DOLLAR && !rest.isEmpty) = true := by rw [hne]; rfl
  simp only [expand, expandGo, hd, if_true, hg, expandGo_skip f rest.length, List.drop_length, emit, hk,
    Bool.false_eq_true, if_false, List.append_nil]

/-- the two concrete shapes, for every identifier -/
theorem value_verbatim_bare (f : Bytes → Bytes) (k : Bytes) (hk : isIdent k = true) :
    expand f (DOLLAR :: k) = f k := by
  obtain ⟨c, r, rfl, hc, hr⟩ := isIdent_cons hk
  have htw : (c :: r).takeWhile isAlnum = c :: r := by
    simpa using List.takeWhile_append_of_pos (p := isAlnum) (l₁ := c :: r) (l₂ := [])
      (List.forall_mem_cons.mpr ⟨identStart_alnum hc, List.all_eq_true.mp hr⟩)
  refine expand_whole_ref f rfl rfl ?_
  rw [getShellName_bare (c :: r) (by rw [htw]; exact hk), htw]

theorem value_verbatim_braced (f : Bytes → Bytes) (k : Bytes) (hk : isIdent k = true) :
    expand f (DOLLAR :: LBRACE :: (k ++ [RBRACE])) = f k := by
  obtain ⟨c, r, rfl, hc, hr⟩ := isIdent_cons hk
  have hall : ∀ x ∈ c :: r, (x != RBRACE) = true := fun x hx =>
    alnum_ne_rbrace ((List.mem_cons.mp hx).elim (· ▸ identStart_alnum hc) (List.all_eq_true.mp hr x))
  have htw : ((c :: r) ++ [RBRACE]).takeWhile (· != RBRACE) = c :: r := by
    rw [List.takeWhile_append_of_pos hall]; simp
  refine expand_whole_ref f rfl rfl ?_
  rw [getShellName_braced _ (by rw [htw]; simp) (by rw [htw]; exact hk), htw]
  simp

theorem runCmd_words (rc : Bool) (prog : Bytes) (ws : List Bytes) (ok : Bool) (env osenv : Env) (code : Nat) :
    runCmd rc (some (prog :: ws)) ok env osenv code =
      if ok = true ∧ env.any (fun kv => hasNul kv.2 || hasNul kv.1) = false ∧
          ((prog :: ws).map (expandEnv env osenv)).any hasNul = false
      then .ran (ws.map (expandEnv env osenv)) (exitReport rc code) else .startErr := by
  rw [runCmd]
  cases ok <;> cases env.any (fun kv => hasNul kv.2 || hasNul kv.1) <;>
    cases ((prog :: ws).map (expandEnv env osenv)).any hasNul <;> rfl

/-- **Arguments are the element-wise expansion of the split command line**: whatever the values
contain, they never change how the command was split. -/
theorem argv_elementwise (rc : Bool) (prog : Bytes) (ws : List Bytes) (ok : Bool) (env osenv : Env)
    (code : Nat) (argv : List Bytes) (rep : Option Nat)
    (h : runCmd rc (some (prog :: ws)) ok env osenv code = .ran argv rep) :
    argv = ws.map (expandEnv env osenv) ∧ rep = exitReport rc code := by
  rw [runCmd_words] at h
  split at h
  · cases h; exact ⟨rfl, rfl⟩
  · cases h

theorem argc_independent_of_values (rc : Bool) (prog : Bytes) (ws : List Bytes) (ok : Bool)
    (env osenv : Env) (code : Nat) (argv : List Bytes) (rep : Option Nat)
    (h : runCmd rc (some (prog :: ws)) ok env osenv code = .ran argv rep) :
    argv.length = ws.length := by
  rw [(argv_elementwise rc prog ws ok env osenv code argv rep h).1]; simp

theorem expandEnv_ref (env osenv : Env) {w k v : Bytes} (hk : pureRef w = some k) (hv : envGet env k = some v) :
    expandEnv env osenv w = v := by
  rw [expandEnv, value_verbatim _ w k hk, lookupVar, hv]

theorem arg_verbatim (rc : Bool) (prog : Bytes) (ws : List Bytes) (ok : Bool) (env osenv : Env)
    (code : Nat) (argv : List Bytes) (rep : Option Nat)
    (h : runCmd rc (some (prog :: ws)) ok env osenv code = .ran argv rep)
    (i : Nat) (w k v : Bytes) (hw : ws[i]? = some w) (hk : pureRef w = some k)
    (hv : envGet env k = some v) : argv[i]? = some v := by
  rw [(argv_elementwise rc prog ws ok env osenv code argv rep h).1, List.getElem?_map, hw, Option.map_some,
    expandEnv_ref env osenv hk hv]

theorem envGet_mem {l : Env} {k v : Bytes} (h : envGet l k = some v) : (k, v) ∈ l := by
  induction l with
  | nil => simp [envGet] at h
  | cons x r ih =>
    obtain ⟨k', v'⟩ := x
    simp only [envGet] at h
    split at h
    · rename_i hk
      obtain rfl : k' = k := eq_of_beq hk
      cases h; exact List.mem_cons_self
    · exact List.mem_cons_of_mem _ (ih h)

theorem lastGet_key_mem {l : Env} {k x : Bytes} (h : lastGet l k = some x) : k ∈ l.map (·.1) := by
  induction l with
  | nil => simp [lastGet] at h
  | cons y r ih =>
    obtain ⟨k', v'⟩ := y
    simp only [lastGet] at h
    split at h
    · rename_i x' hx
      cases h; exact List.mem_cons_of_mem _ (ih hx)
    · split at h
      · rename_i hk
        obtain rfl : k' = k := eq_of_beq hk
        exact List.mem_cons_self
      · cases h

theorem lastGet_of_mem_nodup {l : Env} {k v : Bytes} (hnd : (l.map (·.1)).Nodup) (h : (k, v) ∈ l) :
    lastGet l k = some v := by
  induction l with
  | nil => cases h
  | cons y r ih =>
    obtain ⟨k', v'⟩ := y
    simp only [List.map_cons, List.nodup_cons] at hnd
    simp only [lastGet]
    rcases List.mem_cons.mp h with e | hm
    · injection e with e1 e2
      subst e1 e2
      cases hx : lastGet r k with
      | some x => exact absurd (lastGet_key_mem hx) hnd.1
      | none => simp
    · rw [ih hnd.2 hm]

theorem lastGet_append (a b : Env) (k : Bytes) :
    lastGet (a ++ b) k = (match lastGet b k with | some x => some x | none => lastGet a k) := by
  induction a with
  | nil =>
    simp only [List.nil_append]
    cases lastGet b k <;> simp [lastGet]
  | cons y r ih =>
    obtain ⟨k', v'⟩ := y
    simp only [List.cons_append, lastGet, ih]
    cases lastGet b k <;> simp

/-- **Environment.** Every pair of `c.Env` reaches the child's environment with exactly its value —
for every iteration order `envl` of the Go map and every inherited environment (which it overrides). -/
theorem env_passed (env envl osenv : Env) (k v : Bytes) (hperm : envl.Perm env)
    (hnd : (env.map (·.1)).Nodup) (h : envGet env k = some v) :
    childGet envl osenv k = some v := by
  unfold childGet
  rw [lastGet_append]
  have hm : (k, v) ∈ envl := hperm.symm.subset (envGet_mem h)
  have hnd' : (envl.map (·.1)).Nodup := ((hperm.map (·.1)).nodup_iff).mpr hnd
  rw [lastGet_of_mem_nodup hnd' hm]

/-- a variable the server does not pass is inherited unchanged -/
theorem env_inherited (env osenv : Env) (k : Bytes) (h : k ∉ env.map (·.1)) :
    childGet env osenv k = lastGet osenv k := by
  unfold childGet
  rw [lastGet_append]
  cases hx : lastGet env k with
  | some x => exact absurd (lastGet_key_mem hx) h
  | none => rfl

/-- The property's last sentence, for a given shape of the `Wait` closure. -/
def ExitReported_full (returnsCode : Bool) : Prop :=
  ∀ code : Nat, code ≠ 0 → exitReport returnsCode code = some code

/-- With `return ee.ExitCode()` the statement holds for every status. -/
theorem exit_reported_fixed : ExitReported_full true := by
  intro code h
  simp [exitReport, waitResult, h]

/-- Outside the decidable class `exitCodeDropped` the report is right, for either shape. -/
theorem exit_reported_partial (rc : Bool) (code : Nat) (h : exitCodeDropped rc code = false) :
    (code ≠ 0 → exitReport rc code = some code) ∧ (code = 0 → exitReport rc code = none) := by
  cases rc
  · have : code = 0 := by simpa [exitCodeDropped] using h
    subst this; simp [exitReport, waitResult]
  · refine ⟨fun h0 => by simp [exitReport, waitResult, h0], fun h0 => by simp [exitReport, waitResult, h0]⟩

/-- Inside the class nothing is reported at all (so the class is exactly the failure set). -/
theorem exit_dropped_iff (rc : Bool) (code : Nat) :
    exitCodeDropped rc code = true ↔ (code ≠ 0 ∧ exitReport rc code = none) := by
  cases rc <;> simp [exitCodeDropped, exitReport, waitResult]

/-- Counterexample on the pinned tree's shape (`ee.ExitCode()` evaluated and dropped): status 1. -/
theorem exit_reported_witness : ¬ ExitReported_full false := by
  intro h
  have := h 1 (by decide)
  revert this; decide

/-- exit status 0 is never reported as a failure (Restart = false) -/
theorem exit_zero (rc : Bool) : exitReport rc 0 = none := by
  cases rc <;> rfl

/-- what is handed to `exec.Command`: EVERY word of the split command line, the program word included,
expanded element-wise -/
def execArgv (words : List Bytes) (env osenv : Env) : List Bytes := words.map (expandEnv env osenv)

/-- **The program word is expanded like any other word**: when a command runs, its arguments are the tail
of `execArgv`, whose head is the executable that was started; and whenever that expansion names an existing
program (`ok`) and nothing contains NUL, the command does run. -/
theorem exec_target (rc : Bool) (prog : Bytes) (ws : List Bytes) (env osenv : Env) (code : Nat)
    (h1 : env.any (fun kv => hasNul kv.2 || hasNul kv.1) = false)
    (h2 : (execArgv (prog :: ws) env osenv).any hasNul = false) :
    runCmd rc (some (prog :: ws)) true env osenv code =
      .ran (execArgv (prog :: ws) env osenv).tail (exitReport rc code) ∧
    (execArgv (prog :: ws) env osenv).head? = some (expandEnv env osenv prog) := by
  refine ⟨?_, rfl⟩
  rw [runCmd_words, if_pos ⟨rfl, h1, h2⟩]
  rfl

/-- a program word that is a reference is the value, byte for byte (`$HELPER arg …`) -/
theorem prog_verbatim (prog k v : Bytes) (ws : List Bytes) (env osenv : Env)
    (hk : pureRef prog = some k) (hv : envGet env k = some v) :
    (execArgv (prog :: ws) env osenv).head? = some v :=
  congrArg some (expandEnv_ref env osenv hk hv)

/-- Every run of a restarting hook has the outcome of the first one: `run()` passes the unchanged
command string and `c.Env` to `runOSSpecific` each time (nothing is carried over between runs). -/
theorem restart_all_runs (rc : Bool) (split : Option (List Bytes)) (ok : Bool) (env osenv : Env) (code n : Nat) :
    ∀ o ∈ runsRestart rc split ok env osenv code n, o = runCmdRestart rc split ok env osenv code := by
  intro o ho
  exact List.eq_of_mem_replicate ho

/-- … so on every run the arguments are the element-wise expansion of the ORIGINAL words (a value is
never expanded a second time), and the exit status is always reported. -/
theorem restart_argv (rc : Bool) (prog : Bytes) (ws : List Bytes) (ok : Bool) (env osenv : Env) (code : Nat)
    (argv : List Bytes) (rep : Option Nat)
    (h : runCmdRestart rc (some (prog :: ws)) ok env osenv code = .ran argv rep) :
    argv = ws.map (expandEnv env osenv) ∧ rep = some (waitResult rc code) := by
  unfold runCmdRestart at h
  split at h
  · rename_i a r hr
    cases h
    exact ⟨(argv_elementwise rc prog ws ok env osenv code argv r hr).1, rfl⟩
  · rename_i hnot
    exact absurd h (hnot argv rep)

theorem restart_reports_status (code : Nat) (h : code ≠ 0) : waitResult true code = code := by
  simp [waitResult, h]

-- `$MTX_PATH` and `${G1}` are pure references
example : pureRef (asc ['$','M','T','X','_','P','A','T','H']) = some (asc ['M','T','X','_','P','A','T','H']) := by decide
example : pureRef (asc ['$','{','G','1','}']) = some (asc ['G','1']) := by decide
-- a value containing a space, a quote and a reference arrives as ONE argument, unchanged
example :
    runCmd true (some [asc ['h'], asc ['-','x'], asc ['$','G','1']]) true
      [(asc ['G','1'], asc ['i','t','\'','s',' ','$','G','1'])] [] 3
    = .ran [asc ['-','x'], asc ['i','t','\'','s',' ','$','G','1']] (some 3) := by decide
-- same run on the pinned tree's shape: the status is lost
example :
    runCmd false (some [asc ['h'], asc ['$','G','1']]) true [(asc ['G','1'], asc ['v'])] [] 3
    = .ran [asc ['v']] none := by decide
-- bad syntax is eaten, `$` before a non-name is kept, special one-character names
example : expand (fun _ => asc ['V']) (asc ['a','$','{','}','b','$','{','c']) = asc ['a','b','c'] := by decide
example : expand (fun _ => asc ['V']) (asc ['$','.','$']) = asc ['$','.','$'] := by decide
example : expand (fun n => n) (asc ['$','1','2','$','{','*','}']) = asc ['1','2','*'] := by decide
-- hypotheses of `env_passed` are satisfiable, and the passed value overrides the inherited one
example : childGet [(asc ['A'], asc ['1'])] [(asc ['A'], asc ['0']), (asc ['B'], asc ['2'])] (asc ['A']) = some (asc ['1']) := by decide
example : runCmd true (some []) true [] [] 0 = .panic := by decide

end MtxVerif.C21
