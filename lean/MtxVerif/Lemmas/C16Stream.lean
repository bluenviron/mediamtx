/-
PathSM, stream level (C16): which sub-stream is live on which stream object, which readers are
registered where.  `SInv` is preserved by every step of a state satisfying the general invariant.
-/
import MtxVerif.Lemmas.C18PathSM

namespace MtxVerif.PathSM

structure SInv (s : State) : Prop where
  /-- ids handed out so far are below the counters -/
  d1 : ∀ x ∈ s.subs, x.2 < s.nextStream ∧ x.1 < s.nextSub
  d2 : ∀ sid, s.stream = some sid → sid < s.nextStream
  /-- a reader attached to the path is registered, if at all, on the path's current stream -/
  d3 : ∀ r ∈ s.readers, ∀ sid, (r, sid) ∈ s.sreg → s.stream = some sid
  /-- alwaysAvailable: the stream's current sub-stream is the one handed to the current source -/
  d5 : s.conf.alwaysAvailable = true → s.closed = false → s.aaCur = s.srcSub
  /-- otherwise: the only sub-stream living on the current stream is the current source's -/
  d7 : s.conf.alwaysAvailable = false → ∀ x ∈ s.subs, s.stream = some x.2 → s.srcSub = some x.1
  d8 : ∀ k, s.srcSub = some k → k < s.nextSub
  /-- a live sub-stream belongs to the attached publisher or to the static source that is up -/
  d9 : s.srcSub.isSome = true → (∃ p, s.source = some (.pub p)) ∨ s.srcUp = true

attribute [grind cases] SInv

theorem sinv_addReaderPost (rid r : Nat) (w : W) (h : SInv w.s) (hs : w.s.stream.isSome = true) :
    SInv (addReaderPost rid r w).s := by
  obtain ⟨sid, hsid⟩ := Option.isSome_iff_exists.mp hs
  have d3 := h.d3
  have hreg : regAfter r w.s = w.s.sreg.filter (fun x => x.1 != r) ++ [(r, sid)] := by unfold regAfter; rw [hsid]
  refine addReaderPost_cases rid r w (fun _ => ?_) h (fun _ _ => ?_) <;> rw [hreg] <;> exact { h with d3 := by grind }

theorem sinv_consume (w : W) (h : SInv w.s) (hs : w.s.stream.isSome = true) :
    SInv (consumeOnHoldRequests w).s :=
  (consume_pres (fun s => SInv s ∧ s.stream.isSome = true)
    (fun rid r w h => ⟨sinv_addReaderPost rid r w h.1 h.2,
      (congrArg State.stream (addReaderPost_frame rid r w) :).symm ▸ h.2⟩)
    (fun _ h => ⟨{ h.1 with }, h.2⟩) (fun _ h => ⟨{ h.1 with }, h.2⟩) w ⟨h, hs⟩).1

theorem srcSub_none {s : State} (hi : Inv s) (h : SInv s) (hs : s.source = none ∨ (s.source = some .static ∧ s.srcUp = false)) :
    s.srcSub = none := by
  cases hss : s.srcSub with
  | none => rfl
  | some k =>
    exfalso
    rcases h.d9 (by rw [hss]; rfl) with ⟨q, hq⟩ | hup
    · rcases hs with hs | hs
      · rw [hs] at hq; cases hq
      · rw [hs.1] at hq; cases hq
    · rcases hs with hs | hs
      · have := hi.kind.kStatic.mp (hi.src.s4 (hi.src.s3 hup)); rw [hs] at this; cases this
      · rw [hs.2] at hup; cases hup

/-- the fresh sub-stream of `pubMid` / `srcMid` lives on the stream that is current afterwards -/
theorem getD_current {s : State} (hi : Inv s) (hc : s.closed = false) :
    s.conf.alwaysAvailable = true → ∃ sid, s.stream = some sid ∧ s.stream.getD 0 = sid := by
  intro haa
  obtain ⟨sid, hsid⟩ := Option.isSome_iff_exists.mp (hi.avail.aa haa hc)
  exact ⟨sid, hsid, by rw [hsid]; rfl⟩

theorem sinv_availFail {s : State} (h : SInv s) :
    SInv { s with nextStream := if s.conf.alwaysAvailable then s.nextStream else s.nextStream + 1 } := by
  have hle : s.nextStream ≤ if s.conf.alwaysAvailable = true then s.nextStream else s.nextStream + 1 := by
    split <;> omega
  exact { h with
    d1 := fun x hx => ⟨Nat.lt_of_lt_of_le (h.d1 x hx).1 hle, (h.d1 x hx).2⟩
    d2 := fun sid hs => Nat.lt_of_lt_of_le (h.d2 sid hs) hle }

theorem sinv_execRemove (w : W) (hi : Inv w.s) (h : SInv w.s) : SInv (executeRemovePublisher w).s := by
  rw [executeRemovePublisher_s]
  have r3 := hi.avail.r3
  constructor <;> grind

/-- one loop step keeps `SInv`; the arms are those of `stepW_cases_s` -/
theorem sinv_stepW (e : Event) (w : W) (hi : Inv w.s) (h : SInv w.s) : SInv (stepW e w).s := by
  refine stepW_cases_s e w hi
    (same := h)
    (detach := fun _ => { h with d3 := fun r hr sid hm => h.d3 r hr sid (List.mem_filter.mp hm).1 })
    (hold := fun _ _ _ _ _ => by rw [holdDemand_s]; exact { h with })
    (readPost := fun _ _ _ hs => sinv_addReaderPost _ _ w h hs)
    (pubAttach := ?pubAttach)
    (removePublisher := fun _ _ _ => sinv_execRemove w hi h)
    (removeReader := fun r _ => by
      rw [doRemoveReader_s]; exact { h with d3 := fun x hx => h.d3 x (List.mem_filter.mp hx).1 })
    (srcReady := ?srcReady)
    (srcNotReady := fun _ _ => by rw [srcNotReady_s]; constructor <;> grind)
    (timer := ?timer)
    (reload := fun _ _ _ => { h with })
    (close := fun _ => by rw [doClose_s]; have r3 := hi.avail.r3; constructor <;> grind)
  case pubAttach =>
    intro p ok w1 tr i1 i2 i3 i4
    have h1 : SInv w1.s := tr SInv h fun _ _ => sinv_execRemove w hi h
    clear tr h hi
    refine pubAttach_cases p ok w1 i1 i2 i3 i4 (sinv_availFail h1) fun w2 e2 _ j2 => sinv_consume w2 ?_ j2
    rw [e2]
    have hss := srcSub_none i1 h1 (Or.inl i4)
    have hgd := getD_current i1 i2
    have hav := i1.avail
    unfold pubMid fed
    constructor <;> grind
  case srcReady =>
    intro ok hc hg
    refine srcReady_cases ok w hi hc hg (sinv_availFail h) fun w1 e1 _ h2 => sinv_consume w1 ?_ h2
    rw [e1]
    have hk : w.s.conf.kind = .static := hi.kind.kStatic.mpr hg.1
    have hup : w.s.srcUp = false := by simpa using hg.2.2
    have hss := srcSub_none hi h (Or.inr ⟨hg.1, hup⟩)
    have hgd := getD_current hi hc
    have hav := hi.avail
    unfold srcMid fed
    constructor <;> grind
  case timer =>
    intro t hc ha
    rw [fireTimer_s t w hi hc ha]
    have hsrc := hi.src
    have hv := odStatic_iff w.s.conf
    have hval := (Conf.valid_iff _).mp hi.valid
    have hkind := hi.kind
    cases t <;> simp only [timerArmed] at ha ⊢
    · constructor <;> grind
    · constructor <;> grind
    · exact { h with }
    · exact { h with }

theorem sinv_init (c : Conf) : SInv (init c) := by
  rw [init_s]
  constructor <;> grind

theorem sinv_run (es : List Event) : ∀ s, Inv s → SInv s → SInv (run s es).1 := by
  induction es with
  | nil => intro s _ h; exact h
  | cons e es ih => intro s hi h; exact ih _ (inv_step s e hi) (sinv_stepW e { s := s } hi h)

theorem sinv_reach (c : Conf) (hv : c.valid = true) (es : List Event) : SInv (run (init c) es).1 :=
  sinv_run es _ (inv_init c hv) (sinv_init c)

/-- how the live sub-stream id moves: it stays, is dropped, or becomes an id never handed out before -/
def SubMove (s s' : State) : Prop :=
  (s'.srcSub = s.srcSub ∨ s'.srcSub = none ∨ ∃ k, s'.srcSub = some k ∧ s.nextSub ≤ k ∧ k < s'.nextSub) ∧
    s.nextSub ≤ s'.nextSub

theorem SubMove.keep {s s' : State} (h1 : s'.srcSub = s.srcSub ∨ s'.srcSub = none) (h2 : s'.nextSub = s.nextSub) :
    SubMove s s' :=
  ⟨h1.imp_right Or.inl, Nat.le_of_eq h2.symm⟩

theorem SubMove.refl (s : State) : SubMove s s := .keep (Or.inl rfl) rfl

theorem SubMove.trans {a b c : State} (h1 : SubMove a b) (h2 : SubMove b c) : SubMove a c := by
  unfold SubMove at *; grind

theorem consume_sub (w : W) : (consumeOnHoldRequests w).s.srcSub = w.s.srcSub ∧
    (consumeOnHoldRequests w).s.nextSub = w.s.nextSub :=
  ⟨(congrArg State.srcSub (consume_frame w) :), (congrArg State.nextSub (consume_frame w) :)⟩

theorem fed_sub {s s' : State} (hs : s'.srcSub = (fed s).srcSub) (hn : s'.nextSub = (fed s).nextSub) : SubMove s s' := by
  unfold SubMove
  rw [hs, hn]
  exact ⟨Or.inr (Or.inr ⟨_, rfl, Nat.le_refl _, Nat.lt_succ_self _⟩), Nat.le_succ _⟩

theorem stepW_sub (e : Event) (w : W) (hi : Inv w.s) : SubMove w.s (stepW e w).s :=
  stepW_cases_s (Q := SubMove w.s) e w hi
    (same := SubMove.refl _)
    (detach := fun _ => SubMove.refl _)
    (hold := fun _ _ _ _ _ => by rw [holdDemand_s]; exact SubMove.refl _)
    (readPost := fun rid r _ _ => .keep (Or.inl (congrArg State.srcSub (addReaderPost_frame rid r w) :))
      (congrArg State.nextSub (addReaderPost_frame rid r w) :))
    (pubAttach := fun p ok w1 tr i1 i2 i3 i4 =>
      (tr (SubMove w.s) (SubMove.refl _) (fun _ _ => by rw [executeRemovePublisher_s]; exact .keep (Or.inr rfl) rfl)).trans
        (pubAttach_cases p ok w1 i1 i2 i3 i4 (.keep (Or.inl rfl) rfl) fun w2 e _ _ =>
          fed_sub (by rw [(consume_sub w2).1, e]; rfl) (by rw [(consume_sub w2).2, e]; rfl)))
    (removePublisher := fun _ _ _ => by rw [executeRemovePublisher_s]; exact .keep (Or.inr rfl) rfl)
    (removeReader := fun _ _ => by rw [doRemoveReader_s]; exact SubMove.refl _)
    (srcReady := fun ok hc hg => srcReady_cases ok w hi hc hg (.keep (Or.inl rfl) rfl) fun w2 e _ _ =>
      fed_sub (by rw [(consume_sub w2).1, e]; rfl) (by rw [(consume_sub w2).2, e]; rfl))
    (srcNotReady := fun _ _ => by rw [srcNotReady_s]; exact .keep (Or.inr rfl) rfl)
    (timer := fun t hc ha => by
      rw [fireTimer_s t w hi hc ha]
      cases t
      · exact .keep (Or.inr rfl) rfl
      · exact .keep (Or.inr rfl) rfl
      · exact SubMove.refl _
      · exact SubMove.refl _)
    (reload := fun _ _ _ => SubMove.refl _)
    (close := fun _ => by rw [doClose_s]; exact .keep (Or.inr rfl) rfl)

end MtxVerif.PathSM
