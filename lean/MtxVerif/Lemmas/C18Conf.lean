/- PathSM: the configuration seen by the loop only ever changes in `regexp` (hot reload). -/
import MtxVerif.Lemmas.C18PathSM

namespace MtxVerif.PathSM

/-- same configuration up to the hot-reloadable part -/
def ConfEq (a b : Conf) : Prop := b = { a with regexp := b.regexp }

theorem ConfEq.refl (a : Conf) : ConfEq a a := by cases a; rfl
theorem ConfEq.of_eq {a b : Conf} (h : b = a) : ConfEq a b := h ▸ ConfEq.refl a
theorem ConfEq.trans {a b c : Conf} (h1 : ConfEq a b) (h2 : ConfEq b c) : ConfEq a c := by
  unfold ConfEq at *; rw [h2, h1]

theorem consume_conf (w : W) : (consumeOnHoldRequests w).s.conf = w.s.conf :=
  (congrArg State.conf (consume_frame w) :)

theorem stepW_conf (e : Event) (w : W) (hi : Inv w.s) : ConfEq w.s.conf (stepW e w).s.conf :=
  stepW_cases_s (Q := fun s' => ConfEq w.s.conf s'.conf) e w hi
    (same := ConfEq.refl _)
    (detach := fun _ => ConfEq.refl _)
    (hold := fun _ _ _ _ _ => ConfEq.of_eq (by rw [holdDemand_s]))
    (readPost := fun rid r _ _ => ConfEq.of_eq (congrArg State.conf (addReaderPost_frame rid r w) :))
    (pubAttach := fun p ok w1 tr i1 i2 i3 i4 => ConfEq.of_eq
      ((pubAttach_cases (Q := fun s => s.conf = w1.s.conf) p ok w1 i1 i2 i3 i4 rfl
          fun w2 e _ _ => by rw [consume_conf, e]; rfl).trans
        (tr (fun s => s.conf = w.s.conf) rfl (fun _ _ => by rw [executeRemovePublisher_s]))))
    (removePublisher := fun _ _ _ => ConfEq.of_eq (by rw [executeRemovePublisher_s]))
    (removeReader := fun _ _ => ConfEq.of_eq (by rw [doRemoveReader_s]))
    (srcReady := fun ok hc hg => ConfEq.of_eq
      (srcReady_cases (Q := fun s => s.conf = w.s.conf) ok w hi hc hg rfl fun w2 e _ _ => by rw [consume_conf, e]; rfl))
    (srcNotReady := fun _ _ => ConfEq.of_eq (by rw [srcNotReady_s]))
    (timer := fun t hc ha => ConfEq.of_eq (by rw [fireTimer_s t w hi hc ha]; cases t <;> rfl))
    (reload := fun _ _ _ => by simp [ConfEq])
    (close := fun _ => ConfEq.of_eq (by rw [doClose_s]))

theorem initW_conf (c : Conf) : (init c).conf = c := by rw [init_s]

theorem run_conf (es : List Event) : ∀ s, Inv s → ConfEq s.conf (run s es).1.conf := by
  induction es with
  | nil => intro s _; exact ConfEq.refl _
  | cons e es ih => intro s hi; exact (stepW_conf e { s := s } hi).trans (ih _ (inv_step s e hi))

end MtxVerif.PathSM
