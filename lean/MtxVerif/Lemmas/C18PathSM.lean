/-
Shared library for the PathSM properties (C16, C18, C19, C20): closed forms of the state effect of the helpers and
handlers, the general invariant `Inv` of reachable states, and the case principle `stepW_cases` through which every
layer (invariants, configuration, outputs) follows one loop step.  Core Lean only.
-/
import MtxVerif.Model.PathSM

namespace MtxVerif.PathSM

@[simp] theorem emit_s (o : Out) (w : W) : (emit o w).s = w.s := rfl
@[simp] theorem emit_out (o : Out) (w : W) : (emit o w).out = w.out ++ [o] := rfl
@[simp] theorem upd_s (f : State → State) (w : W) : (upd f w).s = f w.s := rfl
@[simp] theorem upd_out (f : State → State) (w : W) : (upd f w).out = w.out := rfl

theorem setOffline_s (w : W) : (setOffline w).s = { w.s with hkOnline := false } := by
  unfold setOffline; split
  · rfl
  · rename_i h; rcases w with ⟨s, o⟩; cases s; simp_all

theorem setOnline_s (w : W) : (setOnline w).s = { w.s with hkOnline := true } := by
  simp [setOnline, setOffline_s]

theorem setAvailable_s (w : W) : (setAvailable w).s =
    { w.s with stream := some w.s.nextStream, nextStream := w.s.nextStream + 1, hkAvail := true,
               hkOnline := if w.s.conf.alwaysAvailable then w.s.hkOnline else true } := by
  unfold setAvailable
  by_cases h : w.s.conf.alwaysAvailable <;> simp [h, setOnline_s]

theorem closeReaders_s (w : W) : (closeReaders w).s = { w.s with readers := [] } := rfl

theorem setNotAvailable_s (w : W) : (setNotAvailable w).s =
    { w.s with hkOnline := false, readers := [], hkAvail := false, stream := none,
               panicked := w.s.panicked || !w.s.hkAvail } := by
  unfold setNotAvailable
  by_cases h : w.s.hkAvail <;> simp [h, setOffline_s, closeReaders_s, panic]

theorem startOffline_s (w : W) : (startOffline w).s = { w.s with aaCur := none } := rfl

theorem executeRemovePublisher_s (w : W) : (executeRemovePublisher w).s =
    { w.s with
      hkOnline := false, source := none, srcSub := none,
      aaCur := if w.s.conf.alwaysAvailable then none else w.s.aaCur,
      readers := if w.s.conf.alwaysAvailable then w.s.readers else [],
      hkAvail := if w.s.conf.alwaysAvailable then w.s.hkAvail else false,
      stream := if w.s.conf.alwaysAvailable then w.s.stream else none,
      panicked := if w.s.conf.alwaysAvailable then w.s.panicked else (w.s.panicked || !w.s.hkAvail) } := by
  unfold executeRemovePublisher
  rcases w with ⟨s, o⟩
  by_cases h : s.conf.alwaysAvailable = true <;> simp_all [setOffline_s, startOffline_s, setNotAvailable_s]

theorem srcStart_s (w : W) : (srcStart w).s =
    { w.s with srcRunning := true, panicked := w.s.panicked || w.s.srcRunning } := by
  unfold srcStart
  by_cases h : w.s.srcRunning
  · rcases w with ⟨s, o⟩; cases s; simp_all [panic]
  · simp [h]

theorem srcStop_s (w : W) : (srcStop w).s =
    { w.s with
      srcRunning := false,
      srcUp := if w.s.srcRunning then false else w.s.srcUp,
      srcSub := if w.s.srcRunning then none else w.s.srcSub,
      panicked := if w.s.srcRunning then w.s.panicked else true } := by
  unfold srcStop
  rcases w with ⟨s, o⟩
  by_cases h : s.srcRunning = true
  · simp [h]
  · cases s; simp_all [panic]

theorem failHolds_s (k : ReplyKind) (w : W) : (failHolds k w).s = { w.s with descHold := [], readHold := [] } := rfl

theorem replyStream_s (rid : Nat) (w : W) : (replyStream rid w).s = w.s := by
  unfold replyStream; split <;> rfl

theorem closeCheck_s (w : W) : (closeCheck w).s = w.s := by
  unfold closeCheck; split <;> rfl

/-- the configured source kind determines what `source` can hold -/
structure KindOK (kind : SrcKind) (source : Option Src) : Prop where
  kPub : kind = .publisher → source = none ∨ ∃ p, source = some (.pub p)
  kStatic : kind = .static ↔ source = some .static
  kRedirect : kind = .redirect ↔ source = some .redirect

/-- the stream exists exactly while someone feeds it (always, on an alwaysAvailable path);
readers and the two availability hooks need the stream -/
structure AvailOK (always closed : Bool) (kind : SrcKind) (source : Option Src) (srcUp : Bool)
    (stream : Option Nat) (hkAvail hkOnline : Bool) (readers : List Nat) : Prop where
  hkA : hkAvail = stream.isSome
  aa : always = true → closed = false → stream.isSome = true
  cl : closed = true → stream = none
  r3 : readers ≠ [] → stream.isSome = true
  s1 : always = false → closed = false → ∀ p, source = some (.pub p) → stream.isSome = true
  s2 : always = false → closed = false → srcUp = true → stream.isSome = true
  hkO : hkOnline = true → stream.isSome = true
  c1 : always = false → stream.isSome = true → kind = .publisher → source.isSome = true
  c2 : always = false → stream.isSome = true → kind ≠ .publisher → srcUp = true

structure RdOK (maxReaders : Nat) (readers : List Nat) : Prop where
  bound : maxReaders ≠ 0 → readers.length ≤ maxReaders
  nodup : readers.Nodup

/-- static source handler and its on-demand automaton: timers and `running`/`up` follow `odSrc` -/
structure SrcOK (kind : SrcKind) (sod odStatic closed : Bool) (odSrc : OD)
    (tReady tClose running up : Bool) : Prop where
  s3 : up = true → running = true
  s4 : running = true → kind = .static
  o1 : odStatic = false → odSrc = .initial
  o2 : closed = false → (tReady = true ↔ odSrc = .waiting)
  o2' : closed = false → (tClose = true ↔ odSrc = .closing)
  o3 : odStatic = true → closed = false → (running = true ↔ odSrc ≠ .initial)
  o4 : odStatic = true → closed = false → (up = true ↔ (odSrc = .ready ∨ odSrc = .closing))
  o5 : kind = .static → sod = false → (running = true ↔ closed = false)
  cl : closed = true → tReady = false ∧ tClose = false

/-- on-demand publisher automaton: timers and the demand hook follow `odPub` -/
structure PubOK (odPubC closed : Bool) (odPub : OD) (tReady tClose hkDemand : Bool) : Prop where
  q1 : odPubC = false → odPub = .initial
  q2 : closed = false → (tReady = true ↔ odPub = .waiting)
  q2' : closed = false → (tClose = true ↔ odPub = .closing)
  q3 : closed = false → (hkDemand = true ↔ odPub ≠ .initial)
  cl : closed = true → tReady = false ∧ tClose = false ∧ hkDemand = false

/- `grind` opens a clause group found among the hypotheses and proves one clause by clause. -/
attribute [grind cases] KindOK AvailOK RdOK SrcOK PubOK
attribute [grind intro] KindOK AvailOK RdOK SrcOK PubOK

/-- The general invariant of reachable states.  Every clause group is stated over the few state fields it
speaks of, so a handler that leaves those fields alone keeps the group by `{ h with … }` and only the groups
it touches are argued. -/
structure Inv (s : State) : Prop where
  valid : s.conf.valid = true
  np : s.panicked = false
  kind : KindOK s.conf.kind s.source
  avail : AvailOK s.conf.alwaysAvailable s.closed s.conf.kind s.source s.srcUp s.stream s.hkAvail s.hkOnline s.readers
  rd : RdOK s.conf.maxReaders s.readers
  src : SrcOK s.conf.kind s.conf.sourceOnDemand s.conf.odStatic s.closed s.odSrc s.tSrcReady s.tSrcClose
    s.srcRunning s.srcUp
  pub : PubOK s.conf.odPub s.closed s.odPub s.tPubReady s.tPubClose s.hkDemand
  clH : s.closed = true → s.descHold = [] ∧ s.readHold = []

theorem Inv.no_stream {s : State} (h : Inv s) (hs : s.stream = none) :
    s.readers = [] ∧ s.hkOnline = false ∧ s.hkAvail = false := by
  refine ⟨?_, ?_, by rw [h.avail.hkA, hs]; rfl⟩
  · cases hr : s.readers with
    | nil => rfl
    | cons x xs => have := h.avail.r3 (by rw [hr]; simp); rw [hs] at this; cases this
  · cases ho : s.hkOnline with
    | false => rfl
    | true => have := h.avail.hkO ho; rw [hs] at this; cases this

theorem Inv.cl {s : State} (h : Inv s) (hc : s.closed = true) :
    s.stream = none ∧ s.readers = [] ∧ s.descHold = [] ∧ s.readHold = [] ∧
    s.tSrcReady = false ∧ s.tSrcClose = false ∧ s.tPubReady = false ∧ s.tPubClose = false ∧
    s.hkDemand = false ∧ s.hkOnline = false :=
  have hst := h.avail.cl hc
  ⟨hst, (h.no_stream hst).1, (h.clH hc).1, (h.clH hc).2, (h.src.cl hc).1, (h.src.cl hc).2, (h.pub.cl hc).1,
    (h.pub.cl hc).2.1, (h.pub.cl hc).2.2, (h.no_stream hst).2.1⟩

theorem Inv.unfed {s : State} (h : Inv s) (haa : s.conf.alwaysAvailable = false)
    (hs : (s.conf.kind = .publisher ∧ s.source = none) ∨ (s.conf.kind = .static ∧ s.srcUp = false)) :
    s.stream = none := by
  cases hst : s.stream with
  | none => rfl
  | some x =>
    have hsome : s.stream.isSome = true := by rw [hst]; rfl
    rcases hs with ⟨hk, hs⟩ | ⟨hk, hu⟩
    · have := h.avail.c1 haa hsome hk; rw [hs] at this; cases this
    · have := h.avail.c2 haa hsome (by rw [hk]; simp); rw [hu] at this; cases this

theorem holdDemand_s (w : W) : (holdDemand w).s =
    { w.s with
      srcRunning := if w.s.conf.odStatic ∧ w.s.odSrc = .initial then true else w.s.srcRunning,
      panicked := if w.s.conf.odStatic ∧ w.s.odSrc = .initial then (w.s.panicked || w.s.srcRunning) else w.s.panicked,
      tSrcReady := if w.s.conf.odStatic ∧ w.s.odSrc = .initial then true else w.s.tSrcReady,
      odSrc := if w.s.conf.odStatic ∧ w.s.odSrc = .initial then .waiting else w.s.odSrc,
      hkDemand := if ¬ w.s.conf.odStatic ∧ w.s.odPub = .initial then true else w.s.hkDemand,
      tPubReady := if ¬ w.s.conf.odStatic ∧ w.s.odPub ≠ .waiting then true else w.s.tPubReady,
      tPubClose := if ¬ w.s.conf.odStatic ∧ w.s.odPub = .closing then false else w.s.tPubClose,
      odPub := if ¬ w.s.conf.odStatic then .waiting else w.s.odPub } := by
  unfold holdDemand onDemandStaticSourceStart onDemandPublisherStart onDemandPublisherWaitAgain
  rcases w with ⟨s, o⟩
  by_cases h1 : s.conf.odStatic = true
  · by_cases h2 : s.odSrc = .initial <;> simp_all [srcStart_s]
  · cases h3 : s.odPub <;> (cases s; simp_all)

/-- `Conf.valid` spelled out as the implications the proofs use -/
theorem Conf.valid_iff (c : Conf) : c.valid = true ↔
    (c.sourceOnDemand = true → c.kind ≠ .publisher) ∧
    (c.kind = .static → c.regexp = true → c.sourceOnDemand = true) ∧
    (c.alwaysAvailable = true → c.regexp = false ∧ c.sourceOnDemand = false ∧ c.runOnDemand = false) ∧
    (c.runOnDemand = true → c.kind = .publisher) := by
  unfold Conf.valid
  cases c.kind <;> cases c.sourceOnDemand <;> cases c.alwaysAvailable <;> cases c.regexp <;> cases c.runOnDemand <;>
    decide

theorem odStatic_iff (c : Conf) : c.odStatic = true ↔ (c.kind = .static ∧ c.sourceOnDemand = true) := by
  unfold Conf.odStatic; cases c.kind <;> simp

def regAfter (r : Nat) (s : State) : List (Nat × Nat) :=
  match s.stream with
  | some sid => s.sreg.filter (fun x => x.1 != r) ++ [(r, sid)]
  | none => s.sreg

theorem replyReader_s (rid r : Nat) (w : W) : (replyReader rid r w).s = { w.s with sreg := regAfter r w.s } := by
  unfold replyReader register regAfter
  rcases w with ⟨s, o⟩
  cases h : s.stream
  · cases s; simp_all
  · simp_all

theorem replyReader_out (rid r : Nat) (w : W) : ∃ k, (replyReader rid r w).out = w.out ++ [.reply rid k] := by
  unfold replyReader; split <;> exact ⟨_, rfl⟩

/-- the three outcomes of `addReaderPost`: the reader is attached already and only registers on the stream again, the
path is full and nothing changes, or the reader joins (and a close timer that was running is stopped) -/
theorem addReaderPost_cases {P : State → Prop} (rid r : Nat) (w : W)
    (again : r ∈ w.s.readers → P { w.s with sreg := regAfter r w.s })
    (full : P w.s)
    (fresh : r ∉ w.s.readers → ¬ (w.s.conf.maxReaders ≠ 0 ∧ w.s.readers.length ≥ w.s.conf.maxReaders) →
      P { w.s with
        readers := w.s.readers ++ [r],
        odSrc := if w.s.conf.odStatic = true ∧ w.s.odSrc = .closing then .ready else w.s.odSrc,
        tSrcClose := if w.s.conf.odStatic = true ∧ w.s.odSrc = .closing then false else w.s.tSrcClose,
        odPub := if w.s.conf.odStatic = false ∧ w.s.conf.odPub = true ∧ w.s.odPub = .closing then .ready else w.s.odPub,
        tPubClose := if w.s.conf.odStatic = false ∧ w.s.conf.odPub = true ∧ w.s.odPub = .closing then false else w.s.tPubClose,
        sreg := regAfter r w.s }) :
    P (addReaderPost rid r w).s := by
  unfold addReaderPost
  by_cases hmem : r ∈ w.s.readers
  · rw [if_pos hmem, replyReader_s]; exact again hmem
  by_cases hmax : w.s.conf.maxReaders ≠ 0 ∧ w.s.readers.length ≥ w.s.conf.maxReaders
  · rw [if_neg hmem, if_pos hmax]; exact full
  · rw [if_neg hmem, if_neg hmax]
    refine Eq.mpr (congrArg P ?_) (fresh hmem hmax)
    clear again full fresh
    rcases w with ⟨s, o⟩
    simp only [upd_s]
    by_cases hS : s.conf.odStatic = true <;> by_cases hc : s.odSrc = .closing <;>
      by_cases hP : s.conf.odPub = true <;> by_cases hc2 : s.odPub = .closing <;>
      simp_all [replyReader_s, regAfter]

theorem addReaderPost_out (rid r : Nat) (w : W) : ∃ l k, (addReaderPost rid r w).out = w.out ++ l ++ [.reply rid k] ∧
    (l = [] ∨ l = [.disarm .srcClose] ∨ l = [.disarm .pubClose]) := by
  -- `replyReader` comes last; before it at most one `disarm` is appended
  have key : ∀ w1 : W, (∃ l, w1.out = w.out ++ l ∧ (l = [] ∨ l = [.disarm .srcClose] ∨ l = [.disarm .pubClose])) →
      ∃ l k, (replyReader rid r w1).out = w.out ++ l ++ [.reply rid k] ∧
        (l = [] ∨ l = [.disarm .srcClose] ∨ l = [.disarm .pubClose]) := by
    intro w1 ⟨l, e1, hl⟩
    obtain ⟨k, e⟩ := replyReader_out rid r w1
    exact ⟨l, k, by rw [e, e1], hl⟩
  have nil : w.out = w.out ++ [] := (List.append_nil _).symm
  unfold addReaderPost
  by_cases hmem : r ∈ w.s.readers
  · rw [if_pos hmem]; exact key _ ⟨[], nil, Or.inl rfl⟩
  by_cases hmax : w.s.conf.maxReaders ≠ 0 ∧ w.s.readers.length ≥ w.s.conf.maxReaders
  · rw [if_neg hmem, if_pos hmax]
    exact ⟨[], .maxReaders, by rw [emit_out, List.append_nil], Or.inl rfl⟩
  rw [if_neg hmem, if_neg hmax]
  dsimp only
  apply key
  (repeat' split) <;> first
    | exact ⟨[], nil, Or.inl rfl⟩
    | exact ⟨_, rfl, Or.inr (Or.inl rfl)⟩
    | exact ⟨_, rfl, Or.inr (Or.inr rfl)⟩

/-- `s'` differs from `s` at most in the fields that admitting held readers touches: the reader set, the stream
registrations, the "closing → ready" move of the on-demand automaton and the hold lists.  Every other field of `s'`
is read off by `congrArg`. -/
def RdFrame (s s' : State) : Prop :=
  s' = { s with readers := s'.readers, sreg := s'.sreg, odSrc := s'.odSrc, tSrcClose := s'.tSrcClose,
                odPub := s'.odPub, tPubClose := s'.tPubClose, descHold := s'.descHold, readHold := s'.readHold }

theorem RdFrame.refl (s : State) : RdFrame s s := rfl

theorem RdFrame.trans {a b c : State} (h1 : RdFrame a b) (h2 : RdFrame b c) : RdFrame a c := by
  unfold RdFrame at *
  rw [h2, h1]

theorem addReaderPost_frame (rid r : Nat) (w : W) : RdFrame w.s (addReaderPost rid r w).s :=
  addReaderPost_cases (P := RdFrame w.s) rid r w (fun _ => rfl) rfl (fun _ _ => rfl)

theorem addReaderPost_holds (rid r : Nat) (w : W) :
    (addReaderPost rid r w).s.descHold = w.s.descHold ∧ (addReaderPost rid r w).s.readHold = w.s.readHold :=
  addReaderPost_cases (P := fun s' => s'.descHold = w.s.descHold ∧ s'.readHold = w.s.readHold) rid r w
    (fun _ => ⟨rfl, rfl⟩) ⟨rfl, rfl⟩ (fun _ _ => ⟨rfl, rfl⟩)

theorem foldl_pres {α : Type} {R : W → Prop} (f : W → α → W) (hf : ∀ w a, R w → R (f w a)) (l : List α) :
    ∀ w, R w → R (l.foldl f w) := by
  induction l with
  | nil => intro w h; exact h
  | cons a as ih => intro w h; exact ih _ (hf w a h)

theorem foldl_replyStream_s (l : List Nat) (w : W) : (l.foldl (fun w rid => replyStream rid w) w).s = w.s :=
  foldl_pres (R := fun w' => w'.s = w.s) _ (fun w' rid h => (replyStream_s rid w').trans h) l w rfl

/-- whatever answering one held request and clearing a hold list keep, `consumeOnHoldRequests` keeps -/
theorem consume_keeps {R : W → Prop} (reply : ∀ rid w, R w → R (replyStream rid w))
    (post : ∀ rid r w, R w → R (addReaderPost rid r w))
    (clearD : ∀ w, R w → R (upd (fun s => { s with descHold := [] }) w))
    (clearR : ∀ w, R w → R (upd (fun s => { s with readHold := [] }) w))
    {w : W} (h : R w) : R (consumeOnHoldRequests w) := by
  unfold consumeOnHoldRequests
  dsimp only
  apply clearR
  apply foldl_pres _ (fun _ _ h => post _ _ _ h)
  apply clearD
  exact foldl_pres _ (fun _ _ h => reply _ _ h) _ _ h

/-- the same for a property of the state alone -/
theorem consume_pres (P : State → Prop)
    (hP : ∀ rid r (w : W), P w.s → P (addReaderPost rid r w).s)
    (hd : ∀ s, P s → P { s with descHold := [] }) (hr : ∀ s, P s → P { s with readHold := [] })
    (w : W) (h : P w.s) : P (consumeOnHoldRequests w).s :=
  consume_keeps (R := fun w => P w.s) (fun rid w h => by rw [replyStream_s]; exact h) hP (fun w => hd w.s)
    (fun w => hr w.s) h

theorem consume_frame (w : W) : RdFrame w.s (consumeOnHoldRequests w).s :=
  consume_pres (RdFrame w.s) (fun rid r w1 h => h.trans (addReaderPost_frame rid r w1))
    (fun s h => by unfold RdFrame at *; conv => lhs; rw [h])
    (fun s h => by unfold RdFrame at *; conv => lhs; rw [h]) w (RdFrame.refl _)

theorem consume_holds (w : W) :
    (consumeOnHoldRequests w).s.descHold = [] ∧ (consumeOnHoldRequests w).s.readHold = [] := by
  unfold consumeOnHoldRequests
  exact ⟨foldl_pres (R := fun w => w.s.descHold = []) _ (fun w x h => (addReaderPost_holds x.1 x.2 w).1.trans h)
    _ _ rfl, rfl⟩

theorem inv_addReaderPost (rid r : Nat) (w : W) (h : Inv w.s) (hs : w.s.stream.isSome = true) :
    Inv (addReaderPost rid r w).s := by
  refine addReaderPost_cases rid r w (fun _ => { h with }) h (fun hmem hfull => ?_)
  have hb : w.s.conf.maxReaders ≠ 0 → (w.s.readers ++ [r]).length ≤ w.s.conf.maxReaders := by
    intro hm
    have : ¬ w.s.readers.length ≥ w.s.conf.maxReaders := fun hge => hfull ⟨hm, hge⟩
    rw [List.length_append, List.length_singleton]; omega
  have hnd : (w.s.readers ++ [r]).Nodup :=
    List.nodup_append.mpr ⟨h.rd.nodup, by simp, by
      intro a ha b hb; rw [List.mem_singleton] at hb; subst hb; exact fun e => hmem (e ▸ ha)⟩
  have hsrc := h.src
  have hpub := h.pub
  exact { h with
    avail := { h.avail with r3 := fun _ => hs }
    rd := ⟨hb, hnd⟩
    src := by clear h hb hnd hmem hfull hs hpub; grind
    pub := by clear h hb hnd hmem hfull hs hsrc; grind }

theorem inv_consume (w : W) (h : Inv w.s) (hs : w.s.stream.isSome = true) : Inv (consumeOnHoldRequests w).s :=
  (consume_pres (fun s => Inv s ∧ s.stream.isSome = true)
    (fun rid r w h => ⟨inv_addReaderPost rid r w h.1 h.2,
      (congrArg State.stream (addReaderPost_frame rid r w) :).symm ▸ h.2⟩)
    (fun _ h => ⟨{ h.1 with clH := fun hc => ⟨rfl, (h.1.clH hc).2⟩ }, h.2⟩)
    (fun _ h => ⟨{ h.1 with clH := fun hc => ⟨(h.1.clH hc).1, rfl⟩ }, h.2⟩) w ⟨h, hs⟩).1

theorem subErrCleanup_s (w : W) : (subErrCleanup w).s =
    { w.s with
      hkOnline := if w.s.conf.alwaysAvailable then w.s.hkOnline else false,
      readers := if w.s.conf.alwaysAvailable then w.s.readers else [],
      hkAvail := if w.s.conf.alwaysAvailable then w.s.hkAvail else false,
      stream := if w.s.conf.alwaysAvailable then w.s.stream else none,
      panicked := if w.s.conf.alwaysAvailable then w.s.panicked else (w.s.panicked || !w.s.hkAvail) } := by
  unfold subErrCleanup
  rcases w with ⟨s, o⟩
  by_cases h2 : s.conf.alwaysAvailable = true
  · cases s; simp_all
  · simp_all [setNotAvailable_s]

theorem newSub_s (w : W) : (newSub w).s = { w.s with
    nextSub := w.s.nextSub + 1,
    subs := w.s.subs ++ [(w.s.nextSub, w.s.stream.getD 0)],
    srcSub := some w.s.nextSub,
    aaCur := if w.s.conf.alwaysAvailable then some w.s.nextSub else w.s.aaCur } := rfl

theorem onDemandStaticSourceStop_s (w : W) : (onDemandStaticSourceStop w).s =
    { w.s with
      tSrcClose := if w.s.odSrc = .closing then false else w.s.tSrcClose, odSrc := .initial,
      srcRunning := false,
      srcUp := if w.s.srcRunning then false else w.s.srcUp,
      srcSub := if w.s.srcRunning then none else w.s.srcSub,
      panicked := if w.s.srcRunning then w.s.panicked else true } := by
  unfold onDemandStaticSourceStop
  rcases w with ⟨s, o⟩
  by_cases h1 : s.odSrc = .closing <;> by_cases h2 : s.srcRunning = true <;> simp_all [srcStop_s]

theorem onDemandPublisherStop_s (w : W) : (onDemandPublisherStop w).s =
    { w.s with tPubClose := if w.s.odPub = .closing then false else w.s.tPubClose, odPub := .initial,
               hkDemand := false, panicked := w.s.panicked || !w.s.hkDemand } := by
  unfold onDemandPublisherStop
  rcases w with ⟨s, o⟩
  by_cases h1 : s.odPub = .closing <;> by_cases h2 : s.hkDemand = true <;> simp_all [panic]

/-- does the `path.run` epilogue stop the static source handler? -/
def closeStops (s : State) : Prop :=
  s.source = some .static ∧ (s.conf.sourceOnDemand = false ∨ s.odSrc ≠ .initial)

instance (s : State) : Decidable (closeStops s) := by unfold closeStops; infer_instance

theorem closeSource_s (s0 : State) (w : W) :
    (closeSource s0 w).s = if closeStops s0 then (srcStop w).s else w.s := by
  unfold closeSource closeStops
  split
  · rename_i h; simp only [h, true_and]; split <;> rfl
  · rename_i p h; simp [h]
  · rename_i h1 h2
    have : ¬ (s0.source = some .static) := fun e => h1 e
    simp [this]

theorem doClose_s (w : W) : (doClose w).s =
    { w.s with
      tSrcReady := false, tSrcClose := false, tPubReady := false, tPubClose := false,
      descHold := [], readHold := [],
      srcRunning := if closeStops w.s then false else w.s.srcRunning,
      srcUp := if closeStops w.s ∧ w.s.srcRunning = true then false else w.s.srcUp,
      hkDemand := false,
      hkOnline := if w.s.stream.isSome then false else w.s.hkOnline,
      readers := if w.s.stream.isSome then [] else w.s.readers,
      hkAvail := if w.s.stream.isSome then false else w.s.hkAvail,
      stream := none,
      panicked := if w.s.stream.isSome
        then ((if closeStops w.s ∧ w.s.srcRunning = false then true else w.s.panicked) || !w.s.hkAvail)
        else (if closeStops w.s ∧ w.s.srcRunning = false then true else w.s.panicked),
      closed := true, srcSub := none } := by
  rcases w with ⟨s, o⟩
  simp only [doClose, upd_s]
  by_cases h1 : closeStops s <;> by_cases h4 : s.srcRunning = true <;>
    by_cases h2 : s.hkDemand = true <;> by_cases h3 : s.stream.isSome = true <;>
    simp_all [failHolds_s, setNotAvailable_s, srcStop_s, closeSource_s]

theorem inv_execRemove (w : W) (h : Inv w.s) (hc : w.s.closed = false) (q : Nat)
    (hs : w.s.source = some (.pub q)) : Inv (executeRemovePublisher w).s := by
  rw [executeRemovePublisher_s]
  have hk := h.kind
  have ha := h.avail
  exact { h with
    np := by have := h.np; grind
    kind := by grind
    avail := by have := h.src.s3; have := h.src.s4; grind
    rd := by have := h.rd; grind }

/-- `SubStream.Initialize()` failed: the stream `setAvailable` has just created is taken down again.  On a path that
is not alwaysAvailable there was no stream before (nobody fed it), so only the stream counter has moved. -/
theorem availFail_s (w : W) (h : Inv w.s) (hn : w.s.conf.alwaysAvailable = false → w.s.stream = none) :
    (subErrCleanup (if w.s.conf.alwaysAvailable then w else setAvailable w)).s =
      { w.s with nextStream := if w.s.conf.alwaysAvailable then w.s.nextStream else w.s.nextStream + 1 } := by
  rw [subErrCleanup_s]
  cases haa : w.s.conf.alwaysAvailable
  · obtain ⟨hr, ho, ha⟩ := h.no_stream (hn haa)
    have hst := hn haa
    rcases w with ⟨s, o⟩
    cases s
    simp_all [setAvailable_s]
  · simp [haa]

/-- The common shape of `pubAttach` and `doSourceStaticSetReady`: make the stream available, initialise the
sub-stream, record the source (`f`), trade the start timer for the close timer (`sched`), answer the held requests,
answer the source itself (`tag`).  The layers that follow the output argue about this shape once. -/
def attach (tag : PubReply → Out) (f : State → State) (sched : W → W) (subOK : Bool) (w : W) : W :=
  let w := if w.s.conf.alwaysAvailable then w else setAvailable w
  if !subOK then emit (tag .subErr) (subErrCleanup w)
  else
    let k := w.s.nextSub
    let w := upd f (newSub w)
    let w := if w.s.conf.alwaysAvailable then setOnline w else w
    emit (tag (.ok k)) (consumeOnHoldRequests (sched w))

/-- whatever every stage of `attach` keeps, `attach` keeps -/
theorem attach_pres {R : W → Prop} {tag : PubReply → Out} {f : State → State} {sched : W → W} {ok : Bool} {w : W}
    (avail : R (if w.s.conf.alwaysAvailable then w else setAvailable w))
    (cleanup : ∀ w, R w → R (subErrCleanup w))
    (sub : ∀ w, R w → R (upd f (newSub w)))
    (online : ∀ w, R w → R (setOnline w))
    (trade : ∀ w, R w → R (sched w))
    (consume : ∀ w, R w → R (consumeOnHoldRequests w))
    (answer : ∀ k w, R w → R (emit (tag k) w)) :
    R (attach tag f sched ok w) := by
  unfold attach
  dsimp only
  generalize (if w.s.conf.alwaysAvailable = true then w else setAvailable w) = w1 at avail ⊢
  split
  · exact answer _ _ (cleanup _ avail)
  · apply answer
    apply consume
    apply trade
    have h1 := sub _ avail
    generalize upd f (newSub w1) = w2 at h1 ⊢
    split
    · exact online _ h1
    · exact h1

theorem pubAttach_eq (p : Nat) (ok : Bool) (w : W) : pubAttach p ok w =
    attach .pubReply (fun s => { s with source := some (.pub p) })
      (fun w => if w.s.conf.odPub ∧ w.s.odPub ≠ .initial then
        onDemandPublisherScheduleClose (emit (.disarm .pubReady) (upd (fun s => { s with tPubReady := false }) w)) else w)
      ok w := rfl

theorem srcReady_eq (ok : Bool) (w : W) : doSourceStaticSetReady ok w =
    attach .srcReply (fun s => { s with srcUp := true })
      (fun w => if w.s.conf.odStatic then
        onDemandStaticSourceScheduleClose (emit (.disarm .srcReady) (upd (fun s => { s with tSrcReady := false }) w)) else w)
      ok w := rfl

/-- what the arrival of a feeder (publisher, or static source reporting ready) does before the on-demand automaton
reacts: `setAvailable` (unless alwaysAvailable), `newSub`, the path online -/
def fed (s : State) : State :=
  { s with
    stream := if s.conf.alwaysAvailable then s.stream else some s.nextStream,
    nextStream := if s.conf.alwaysAvailable then s.nextStream else s.nextStream + 1,
    hkAvail := if s.conf.alwaysAvailable then s.hkAvail else true,
    hkOnline := true,
    nextSub := s.nextSub + 1,
    subs := s.subs ++ [(s.nextSub, if s.conf.alwaysAvailable then s.stream.getD 0 else s.nextStream)],
    srcSub := some s.nextSub,
    aaCur := if s.conf.alwaysAvailable then some s.nextSub else s.aaCur }

/-- state of a successful `pubAttach` just before the held requests are consumed: the publisher attached, the
runOnDemand start timer traded for the close timer -/
def pubMid (p : Nat) (s : State) : State :=
  { fed s with
    source := some (.pub p),
    tPubReady := if s.conf.odPub ∧ s.odPub ≠ .initial then false else s.tPubReady,
    tPubClose := if s.conf.odPub ∧ s.odPub ≠ .initial then true else s.tPubClose,
    odPub := if s.conf.odPub ∧ s.odPub ≠ .initial then .closing else s.odPub }

theorem pubAttach_ok_s (p : Nat) (w : W) : ∃ w1 : W,
    (pubAttach p true w).s = (consumeOnHoldRequests w1).s ∧ w1.s = pubMid p w.s := by
  unfold pubAttach pubMid fed
  refine ⟨_, rfl, ?_⟩
  rcases w with ⟨s, o⟩
  by_cases haa : s.conf.alwaysAvailable = true <;> by_cases hC : s.conf.odPub ∧ s.odPub ≠ .initial <;>
    simp [haa, hC, newSub_s, setOnline_s, setAvailable_s, onDemandPublisherScheduleClose]

theorem inv_pubMid (p : Nat) (s : State) (h : Inv s) (hc : s.closed = false) (hk : s.conf.kind = .publisher) :
    Inv (pubMid p s) ∧ (pubMid p s).stream.isSome = true := by
  have ha := h.avail
  unfold pubMid fed
  exact ⟨{ h with
      kind := by cases h.kind; constructor <;> grind
      avail := by grind
      pub := by have := h.pub; grind },
    by grind⟩

/-- `pubAttach` on a publisher path without source: either `SubStream.Initialize()` failed and only the stream counter
has moved, or the held requests are consumed from `pubMid` -/
theorem pubAttach_cases {Q : State → Prop} (p : Nat) (ok : Bool) (w : W) (h : Inv w.s) (hc : w.s.closed = false)
    (hk : w.s.conf.kind = .publisher) (hs : w.s.source = none)
    (fail : Q { w.s with nextStream := if w.s.conf.alwaysAvailable then w.s.nextStream else w.s.nextStream + 1 })
    (done : ∀ w1 : W, w1.s = pubMid p w.s → Inv w1.s → w1.s.stream.isSome = true → Q (consumeOnHoldRequests w1).s) :
    Q (pubAttach p ok w).s := by
  cases ok
  · show Q (subErrCleanup (if w.s.conf.alwaysAvailable then w else setAvailable w)).s
    rw [availFail_s w h fun haa => h.unfed haa (Or.inl ⟨hk, hs⟩)]; exact fail
  · obtain ⟨w1, e, e1⟩ := pubAttach_ok_s p w
    obtain ⟨h1, h2⟩ := inv_pubMid p w.s h hc hk
    rw [e]; exact done w1 e1 (e1 ▸ h1) (e1 ▸ h2)

theorem doRemoveReader_s (r : Nat) (w : W) : (doRemoveReader r w).s =
    { w.s with
      readers := w.s.readers.filter (· != r),
      tSrcClose := if (w.s.readers.filter (· != r)).isEmpty ∧ w.s.conf.odStatic ∧ w.s.odSrc = .ready then true else w.s.tSrcClose,
      odSrc := if (w.s.readers.filter (· != r)).isEmpty ∧ w.s.conf.odStatic ∧ w.s.odSrc = .ready then .closing else w.s.odSrc,
      tPubClose := if (w.s.readers.filter (· != r)).isEmpty ∧ ¬ w.s.conf.odStatic ∧ w.s.conf.odPub ∧ w.s.odPub = .ready
        then true else w.s.tPubClose,
      odPub := if (w.s.readers.filter (· != r)).isEmpty ∧ ¬ w.s.conf.odStatic ∧ w.s.conf.odPub ∧ w.s.odPub = .ready
        then .closing else w.s.odPub } := by
  unfold doRemoveReader onDemandStaticSourceScheduleClose onDemandPublisherScheduleClose
  rcases w with ⟨s, o⟩
  by_cases he : (s.readers.filter (· != r)).isEmpty = true <;> by_cases h1 : s.conf.odStatic = true <;> by_cases h2 : s.odSrc = .ready <;>
    by_cases h3 : s.conf.odPub = true <;> by_cases h4 : s.odPub = .ready <;> simp [he, h1, h2, h3, h4]

theorem doRemoveReader_out (r : Nat) (w : W) : ∃ l, (doRemoveReader r w).out = w.out ++ l ∧
    (l = [] ∨ l = [.arm .srcClose] ∨ l = [.arm .pubClose]) := by
  have nil : ∀ f : State → State, (upd f w).out = w.out ++ [] := fun _ => (List.append_nil _).symm
  unfold doRemoveReader onDemandStaticSourceScheduleClose onDemandPublisherScheduleClose
  dsimp only
  (repeat' split) <;> first
    | exact ⟨[], nil _, Or.inl rfl⟩
    | exact ⟨_, rfl, Or.inr (Or.inl rfl)⟩
    | exact ⟨_, rfl, Or.inr (Or.inr rfl)⟩

/-- state of a successful `doSourceStaticSetReady` just before the held requests are consumed -/
def srcMid (s : State) : State :=
  { fed s with
    srcUp := true,
    tSrcReady := if s.conf.odStatic then false else s.tSrcReady,
    tSrcClose := if s.conf.odStatic then true else s.tSrcClose,
    odSrc := if s.conf.odStatic then .closing else s.odSrc }

theorem srcReady_ok_s (w : W) : ∃ w1 : W,
    (doSourceStaticSetReady true w).s = (consumeOnHoldRequests w1).s ∧ w1.s = srcMid w.s := by
  unfold doSourceStaticSetReady srcMid fed
  refine ⟨_, rfl, ?_⟩
  rcases w with ⟨s, o⟩
  by_cases haa : s.conf.alwaysAvailable = true <;> by_cases hC : s.conf.odStatic = true <;>
    simp [haa, hC, newSub_s, setOnline_s, setAvailable_s, onDemandStaticSourceScheduleClose]

theorem inv_srcMid (s : State) (h : Inv s) (hc : s.closed = false) (hk : s.conf.kind = .static)
    (hr : s.srcRunning = true) : Inv (srcMid s) ∧ (srcMid s).stream.isSome = true := by
  have ha := h.avail
  have hv := odStatic_iff s.conf
  unfold srcMid fed
  exact ⟨{ h with
      avail := by grind
      src := by have := h.src; grind },
    by grind⟩

/-- `doSourceStaticSetReady` when the running static source was not up: as `pubAttach_cases`, from `srcMid` -/
theorem srcReady_cases {Q : State → Prop} (ok : Bool) (w : W) (h : Inv w.s) (hc : w.s.closed = false)
    (hg : w.s.source = some .static ∧ w.s.srcRunning = true ∧ (!w.s.srcUp) = true)
    (fail : Q { w.s with nextStream := if w.s.conf.alwaysAvailable then w.s.nextStream else w.s.nextStream + 1 })
    (done : ∀ w1 : W, w1.s = srcMid w.s → Inv w1.s → w1.s.stream.isSome = true → Q (consumeOnHoldRequests w1).s) :
    Q (doSourceStaticSetReady ok w).s := by
  have hk : w.s.conf.kind = .static := h.kind.kStatic.mpr hg.1
  cases ok
  · show Q (subErrCleanup (if w.s.conf.alwaysAvailable then w else setAvailable w)).s
    rw [availFail_s w h fun haa => h.unfed haa (Or.inr ⟨hk, by simpa using hg.2.2⟩)]; exact fail
  · obtain ⟨w1, e, e1⟩ := srcReady_ok_s w
    obtain ⟨h1, h2⟩ := inv_srcMid w.s h hc hk hg.2.1
    rw [e]; exact done w1 e1 (e1 ▸ h1) (e1 ▸ h2)

theorem srcNotReady_s (w : W) : (doSourceStaticSetNotReady w).s =
    { w.s with
      hkOnline := false, srcSub := none, srcUp := false,
      aaCur := if w.s.conf.alwaysAvailable then none else w.s.aaCur,
      readers := if w.s.conf.alwaysAvailable then w.s.readers else [],
      hkAvail := if w.s.conf.alwaysAvailable then w.s.hkAvail else false,
      stream := if w.s.conf.alwaysAvailable then w.s.stream else none,
      tSrcClose := if w.s.conf.odStatic ∧ w.s.odSrc = .closing then false else w.s.tSrcClose,
      odSrc := if w.s.conf.odStatic then .initial else w.s.odSrc,
      srcRunning := if w.s.conf.odStatic ∧ w.s.odSrc ≠ .initial then false else w.s.srcRunning,
      panicked := (if w.s.conf.alwaysAvailable then w.s.panicked else (w.s.panicked || !w.s.hkAvail)) ||
        (w.s.conf.odStatic && w.s.odSrc != .initial && !w.s.srcRunning) } := by
  unfold doSourceStaticSetNotReady
  rcases w with ⟨s, o⟩
  by_cases haa : s.conf.alwaysAvailable = true <;> by_cases h1 : s.conf.odStatic = true <;>
    by_cases h2 : s.odSrc = .initial <;> by_cases h3 : s.odSrc = .closing <;> by_cases h4 : s.srcRunning = true <;>
    simp_all [setOffline_s, startOffline_s, setNotAvailable_s, onDemandStaticSourceStop_s]

theorem SrcOK.od {kind : SrcKind} {sod odStatic closed : Bool} {odSrc : OD} {tReady tClose running up : Bool}
    (h : SrcOK kind sod odStatic closed odSrc tReady tClose running up) (hne : odSrc ≠ .initial) : odStatic = true := by
  cases ho : odStatic with
  | true => rfl
  | false => exact absurd (h.o1 ho) hne

/-- The armed timer tells the state of its automaton: the source to stop is running, the hook pair to close is open,
and the close timer of a static source cannot meet an alwaysAvailable path. -/
theorem Inv.armed {s : State} (h : Inv s) (hc : s.closed = false) (t : Timer) (ha : timerArmed s t = true) :
    match t with
    | .srcReady => s.odSrc = .waiting ∧ s.srcRunning = true
    | .srcClose => s.odSrc = .closing ∧ s.srcRunning = true ∧ s.conf.alwaysAvailable = false ∧ s.hkAvail = true
    | .pubReady => s.odPub = .waiting ∧ s.hkDemand = true
    | .pubClose => s.odPub = .closing ∧ s.hkDemand = true := by
  have hs := h.src
  have hp := h.pub
  cases t <;> simp only [timerArmed] at ha ⊢
  · have hw := (hs.o2 hc).mp ha
    exact ⟨hw, (hs.o3 (hs.od (by rw [hw]; simp)) hc).mpr (by rw [hw]; simp)⟩
  · have hw := (hs.o2' hc).mp ha
    have hod := hs.od (by rw [hw]; simp)
    have haa : s.conf.alwaysAvailable = false := by
      cases haa : s.conf.alwaysAvailable with
      | false => rfl
      | true =>
        have := ((odStatic_iff _).mp hod).2
        rw [(((Conf.valid_iff _).mp h.valid).2.2.1 haa).2.1] at this; cases this
    exact ⟨hw, (hs.o3 hod hc).mpr (by rw [hw]; simp), haa, by
      rw [h.avail.hkA]; exact h.avail.s2 haa hc ((hs.o4 hod hc).mpr (Or.inr hw))⟩
  · have hw := (hp.q2 hc).mp ha
    exact ⟨hw, (hp.q3 hc).mpr (by rw [hw]; simp)⟩
  · have hw := (hp.q2' hc).mp ha
    exact ⟨hw, (hp.q3 hc).mpr (by rw [hw]; simp)⟩

/-- what the expiry of an armed timer does to a state satisfying the invariant (`Inv.armed` decides the branches) -/
theorem fireTimer_s (t : Timer) (w : W) (h : Inv w.s) (hc : w.s.closed = false) (ha : timerArmed w.s t = true) :
    (fireTimer t w).s = match t with
      | .srcReady =>
        { w.s with tSrcReady := false, descHold := [], readHold := [], odSrc := .initial,
                   srcRunning := false, srcUp := false, srcSub := none }
      | .srcClose =>
        { w.s with tSrcClose := false, hkOnline := false, readers := [], hkAvail := false, stream := none,
                   odSrc := .initial, srcRunning := false, srcUp := false, srcSub := none }
      | .pubReady => { w.s with tPubReady := false, descHold := [], readHold := [], odPub := .initial, hkDemand := false }
      | .pubClose => { w.s with tPubClose := false, odPub := .initial, hkDemand := false } := by
  have hf := h.armed hc t ha
  cases t <;> simp only [fireTimer, closeCheck_s] at hf ⊢
  · simp [doOnDemandStaticSourceReadyTimer, onDemandStaticSourceStop_s, failHolds_s, hf]
  · simp [doOnDemandStaticSourceCloseTimer, onDemandStaticSourceStop_s, setNotAvailable_s, hf]
  · simp [doOnDemandPublisherReadyTimer, onDemandPublisherStop_s, failHolds_s, hf]
  · simp [doOnDemandPublisherCloseTimer, onDemandPublisherStop_s, hf]

/-- ... and it stops what the automaton had started: the static source, or the runOnDemand command -/
theorem fireTimer_stops (t : Timer) (w : W) (h : Inv w.s) (hc : w.s.closed = false) (ha : timerArmed w.s t = true) :
    (match t with | .srcReady | .srcClose => Out.srcStop | .pubReady | .pubClose => Out.hook .demand false) ∈
      (fireTimer t w).out := by
  have hf := h.armed hc t ha
  cases t <;> simp only [fireTimer] at hf ⊢
  · simp [closeCheck, doOnDemandStaticSourceReadyTimer, onDemandStaticSourceStop, srcStop, failHolds, hf]
    split <;> simp
  · simp [closeCheck, doOnDemandStaticSourceCloseTimer, onDemandStaticSourceStop, srcStop, setNotAvailable_s, hf]
    split <;> simp
  · simp [closeCheck, doOnDemandPublisherReadyTimer, onDemandPublisherStop, failHolds, hf]
    split <;> simp
  · simp [doOnDemandPublisherCloseTimer, onDemandPublisherStop, hf]

theorem stepW_timer (t : Timer) (w : W) (h : Inv w.s) (hc : w.s.closed = false) (ha : timerArmed w.s t = true) :
    stepW (.timer t) w = fireTimer t w := by
  unfold stepW
  rw [if_neg (by simp [h.np]), if_neg (by simp [hc])]
  exact if_pos ha

/-- events that carry a request to be answered -/
def Event.asks : Event → Option Nat
  | .describe rid => some rid
  | .addReader rid _ => some rid
  | _ => none

theorem replyStream_eq (rid : Nat) (w : W) : ∃ k, replyStream rid w = emit (.reply rid k) w := by
  unfold replyStream; split <;> exact ⟨_, rfl⟩

/-- Case principle for one loop step from a state satisfying the invariant: `P` holds of `stepW e w` once it holds of
every arm of the `select`, each entered with the facts its guard and the invariant give (on a closed path only the
answering arms are left).  `pubReplace` is the overridePublisher path of `doAddPublisher`: `w1` is the state after the
old publisher was closed and removed, from where `pubAttach` runs as on a path without source. -/
theorem stepW_cases {P : Event → W → Prop} (e : Event) (w : W) (hi : Inv w.s)
    (cc : ∀ e w', P e w' → P e (closeCheck w'))
    (reply : ∀ e rid k, e.asks = some rid → P e (emit (.reply rid k) w))
    (pubReply : ∀ p ok k, P (.addPublisher p ok) (emit (.pubReply k) w))
    (ignored : ∀ e, e.asks = none → P e (emit .ignored w))
    (nop : ∀ e, e.asks = none → P e w)
    (write : ∀ k, P (.write k) (emit (.delivered (deliver w.s k)) w))
    (detach : ∀ r, P (.detach r) (upd (fun s => { s with sreg := s.sreg.filter (fun x => x.1 != r) }) w))
    (descHold : ∀ rid, w.s.closed = false → w.s.stream = none → (w.s.conf.odStatic || w.s.conf.odPub) = true →
      P (.describe rid) (upd (fun s => { s with descHold := s.descHold ++ [rid] }) (holdDemand w)))
    (readHold : ∀ rid r, w.s.closed = false → w.s.stream = none → (w.s.conf.odStatic || w.s.conf.odPub) = true →
      P (.addReader rid r) (upd (fun s => { s with readHold := s.readHold ++ [(rid, r)] }) (holdDemand w)))
    (readPost : ∀ rid r, w.s.closed = false → w.s.stream.isSome = true → P (.addReader rid r) (addReaderPost rid r w))
    (pubFresh : ∀ p ok, w.s.closed = false → w.s.conf.kind = .publisher → w.s.source = none →
      P (.addPublisher p ok) (pubAttach p ok w))
    (pubReplace : ∀ p ok q w1, w.s.closed = false → w.s.source = some (.pub q) →
      w1 = executeRemovePublisher (emit (.pubClosed q) w) → Inv w1.s →
      w1.s.closed = false → w1.s.conf.kind = .publisher → w1.s.source = none →
      P (.addPublisher p ok) (pubAttach p ok w1))
    (removePublisher : ∀ p, w.s.closed = false → w.s.source = some (.pub p) →
      P (.removePublisher p) (executeRemovePublisher w))
    (removeReader : ∀ r, w.s.closed = false → P (.removeReader r) (doRemoveReader r w))
    (srcReady : ∀ ok, w.s.closed = false → w.s.source = some .static ∧ w.s.srcRunning = true ∧ (!w.s.srcUp) = true →
      P (.srcReady ok) (doSourceStaticSetReady ok w))
    (srcNotReady : w.s.closed = false → w.s.source = some .static ∧ w.s.srcRunning = true ∧ w.s.srcUp = true →
      P .srcNotReady (doSourceStaticSetNotReady w))
    (timer : ∀ t, w.s.closed = false → timerArmed w.s t = true → P (.timer t) (fireTimer t w))
    (reload : ∀ rx, w.s.closed = false → ({ w.s.conf with regexp := rx } : Conf).valid = true →
      P (.reloadConf rx) (upd (fun s => { s with conf := { s.conf with regexp := rx } }) w))
    (close : w.s.closed = false → P .close (doClose w)) :
    P e (stepW e w) := by
  unfold stepW
  rw [if_neg (by simp [hi.np])]
  by_cases hcl : w.s.closed = true
  · rw [if_pos hcl]
    unfold stepClosed
    cases e <;> first
      | exact reply _ _ _ rfl | exact pubReply _ _ _ | exact write _ | exact detach _ | exact nop _ rfl
      | exact ignored _ rfl
  rw [if_neg hcl]
  have hc : w.s.closed = false := by simpa using hcl
  cases e <;> dsimp only
  · rename_i rid
    apply cc
    unfold doDescribe
    split
    · exact reply _ _ _ rfl
    split
    · obtain ⟨k, ek⟩ := replyStream_eq rid w
      rw [ek]; exact reply _ _ _ rfl
    rename_i hs
    split
    · exact descHold _ hc (by simpa using hs) ‹_›
    split <;> exact reply _ _ _ rfl
  · rename_i p ok
    apply cc
    unfold doAddPublisher
    split
    · exact pubReply _ _ _
    split
    · exact pubReply _ _ _
    rename_i hk _
    have hk' : w.s.conf.kind = .publisher := by simpa using hk
    unfold pubOverride
    split
    · exact pubFresh _ _ hc hk' ‹_›
    · rename_i q hq
      refine pubReplace p ok q _ hc hq rfl (inv_execRemove _ hi hc q hq) ?_ ?_ ?_ <;>
        simp [executeRemovePublisher_s, hc, hk']
    · -- the type assertion `pa.source.(defs.Publisher)` cannot fail on a publisher path
      rename_i x hx hne
      exfalso
      rcases hi.kind.kPub hk' with h0 | ⟨q, hq⟩
      · rw [h0] at hne; cases hne
      · rw [hq] at hne; injection hne with e; exact hx q e.symm
  · apply cc
    unfold doRemovePublisher
    split
    · exact removePublisher _ hc ‹_›
    · exact nop _ rfl
  · apply cc
    unfold doAddReader
    split
    · exact readPost _ _ hc ‹_›
    rename_i hs
    split
    · exact readHold _ _ hc (by simpa using hs) ‹_›
    · exact reply _ _ _ rfl
  · exact cc _ _ (removeReader _ hc)
  · split
    · exact srcReady _ hc ‹_›
    · exact ignored _ rfl
  · split
    · exact cc _ _ (srcNotReady hc ‹_›)
    · exact ignored _ rfl
  · split
    · exact timer _ hc ‹_›
    · exact ignored _ rfl
  · split
    · exact reload _ hc ‹_›
    · exact ignored _ rfl
  · exact close hc
  · exact write _
  · exact detach _

/-- the same for a property `Q` of the state alone: the answering arms leave the state as it is; `pubAttach` starts
from `w1`, which is `w` itself or `w` after `executeRemovePublisher`, and whatever holds of both holds of `w1` -/
theorem stepW_cases_s {Q : State → Prop} (e : Event) (w : W) (hi : Inv w.s)
    (same : Q w.s)
    (detach : ∀ r, Q { w.s with sreg := w.s.sreg.filter (fun x => x.1 != r) })
    (hold : ∀ dh rh, w.s.closed = false → w.s.stream = none → (w.s.conf.odStatic || w.s.conf.odPub) = true →
      Q { (holdDemand w).s with descHold := dh, readHold := rh })
    (readPost : ∀ rid r, w.s.closed = false → w.s.stream.isSome = true → Q (addReaderPost rid r w).s)
    (pubAttach : ∀ p ok (w1 : W),
      (∀ L : State → Prop, L w.s → (∀ q, w.s.source = some (.pub q) → L (executeRemovePublisher w).s) → L w1.s) →
      Inv w1.s → w1.s.closed = false → w1.s.conf.kind = .publisher → w1.s.source = none → Q (pubAttach p ok w1).s)
    (removePublisher : ∀ p, w.s.closed = false → w.s.source = some (.pub p) → Q (executeRemovePublisher w).s)
    (removeReader : ∀ r, w.s.closed = false → Q (doRemoveReader r w).s)
    (srcReady : ∀ ok, w.s.closed = false → w.s.source = some .static ∧ w.s.srcRunning = true ∧ (!w.s.srcUp) = true →
      Q (doSourceStaticSetReady ok w).s)
    (srcNotReady : w.s.closed = false → w.s.source = some .static ∧ w.s.srcRunning = true ∧ w.s.srcUp = true →
      Q (doSourceStaticSetNotReady w).s)
    (timer : ∀ t, w.s.closed = false → timerArmed w.s t = true → Q (fireTimer t w).s)
    (reload : ∀ rx, w.s.closed = false → ({ w.s.conf with regexp := rx } : Conf).valid = true →
      Q { w.s with conf := { w.s.conf with regexp := rx } })
    (close : w.s.closed = false → Q (doClose w).s) :
    Q (stepW e w).s :=
  stepW_cases (P := fun _ w' => Q w'.s) e w hi
    (fun _ w' h => (closeCheck_s w').symm ▸ h) (fun _ _ _ _ => same) (fun _ _ _ => same) (fun _ _ => same) (fun _ _ => same)
    (fun _ => same) detach (fun _ hc hs ho => hold _ _ hc hs ho) (fun _ _ hc hs ho => hold _ _ hc hs ho) readPost
    (fun p ok hc hk hs => pubAttach p ok w (fun _ h _ => h) hi hc hk hs)
    (fun p ok q w1 _ hq e i1 i2 i3 i4 => pubAttach p ok w1
      (fun L _ h => by
        have : w1.s = (executeRemovePublisher w).s := by rw [e, executeRemovePublisher_s, executeRemovePublisher_s]; rfl
        rw [this]; exact h q hq) i1 i2 i3 i4)
    removePublisher removeReader srcReady srcNotReady timer reload close

/-- one loop step keeps the invariant; the arms are those of `stepW_cases_s` -/
theorem inv_stepW (e : Event) (w : W) (h : Inv w.s) : Inv (stepW e w).s := by
  have hv := odStatic_iff w.s.conf
  have hs := h.src
  refine stepW_cases_s e w h
    (same := h)
    (detach := fun _ => { h with })
    (hold := ?hold)
    (readPost := fun rid r _ hs => inv_addReaderPost rid r w h hs)
    (pubAttach := fun p ok w1 _ i1 i2 i3 i4 =>
      pubAttach_cases p ok w1 i1 i2 i3 i4 { i1 with } fun w2 _ h1 h2 => inv_consume w2 h1 h2)
    (removePublisher := fun p hc hs => inv_execRemove w h hc p hs)
    (removeReader := ?removeReader)
    (srcReady := fun ok hc hg => srcReady_cases ok w h hc hg { h with } fun w2 _ h1 h2 => inv_consume w2 h1 h2)
    (srcNotReady := ?srcNotReady) (timer := ?timer)
    (reload := fun _ _ hv => { h with valid := hv })
    (close := ?close)
  case hold =>
    intro dh rh hc _ hg
    rw [holdDemand_s]
    exact { h with
      np := by have := h.np; grind
      src := by grind
      pub := by have := h.pub; grind
      clH := by grind }
  case removeReader =>
    intro r hc
    rw [doRemoveReader_s]
    have h1 : (w.s.readers.filter (· != r)).length ≤ w.s.readers.length := List.length_filter_le _ _
    have h3 : w.s.readers.filter (· != r) ≠ [] → w.s.readers ≠ [] := by
      intro hne he; rw [he] at hne; exact hne rfl
    have hp := h.pub
    exact { h with
      avail := { h.avail with r3 := fun hne => h.avail.r3 (h3 hne) }
      rd := ⟨fun hm => Nat.le_trans h1 (h.rd.bound hm), h.rd.nodup.filter _⟩
      src := by clear h h1 h3 hp hv; generalize w.s.readers.filter (· != r) = rs; grind
      pub := by clear h h1 h3 hs hv; generalize w.s.readers.filter (· != r) = rs; grind }
  case srcNotReady =>
    intro hc hg
    rw [srcNotReady_s]
    have hk : w.s.conf.kind = .static := h.kind.kStatic.mpr hg.1
    have hval := (Conf.valid_iff _).mp h.valid
    have ha := h.avail
    exact { h with
      np := by have := h.np; grind
      avail := by grind
      rd := by have := h.rd; grind
      src := by grind }
  case timer =>
    intro t hc ha
    rw [fireTimer_s t w h hc ha]
    have hval := (Conf.valid_iff _).mp h.valid
    have hp := h.pub
    have hav := h.avail
    cases t <;> simp only [timerArmed] at ha ⊢
    · exact { h with avail := by grind, src := by grind, clH := fun _ => ⟨rfl, rfl⟩ }
    · exact { h with
        avail := by have := h.kind; grind
        rd := ⟨fun _ => Nat.zero_le _, List.nodup_nil⟩
        src := by grind }
    · exact { h with pub := by grind, clH := fun _ => ⟨rfl, rfl⟩ }
    · exact { h with pub := by grind }
  case close =>
    intro hc
    rw [doClose_s]
    have hav := h.avail
    have hk := h.kind
    unfold closeStops
    exact { h with
      np := by have := h.np; grind
      avail := by grind
      rd := by have := h.rd; grind
      src := by grind
      pub := by have := h.pub; grind
      clH := fun _ => ⟨rfl, rfl⟩ }

theorem inv_step (s : State) (e : Event) (h : Inv s) : Inv (step s e).1 := inv_stepW e { s := s } h

theorem init_s (c : Conf) : init c =
    { conf := c,
      stream := if c.alwaysAvailable then some 0 else none,
      nextStream := if c.alwaysAvailable then 1 else 0,
      hkAvail := c.alwaysAvailable,
      source := match c.kind with | .publisher => none | .static => some .static | .redirect => some .redirect,
      srcRunning := c.kind == .static && !c.sourceOnDemand } := by
  unfold init initW
  cases c.kind <;> cases c.alwaysAvailable <;> cases c.sourceOnDemand <;> simp [srcStart_s] <;> rfl

theorem inv_init (c : Conf) (hv : c.valid = true) : Inv (init c) := by
  rw [init_s]
  have hv' := odStatic_iff c
  have hval := (Conf.valid_iff _).mp hv
  exact ⟨hv, rfl, by grind, by grind, ⟨fun _ => Nat.zero_le _, List.nodup_nil⟩,
    by constructor <;> grind, by grind, fun _ => ⟨rfl, rfl⟩⟩

theorem inv_run (es : List Event) : ∀ s, Inv s → Inv (run s es).1 := by
  induction es with
  | nil => intro s h; exact h
  | cons e es ih => intro s h; exact ih _ (inv_step s e h)

/-- every state reachable from the loop's start state satisfies the invariant -/
theorem inv_reach (c : Conf) (hv : c.valid = true) (es : List Event) : Inv (run (init c) es).1 :=
  inv_run es _ (inv_init c hv)

end MtxVerif.PathSM
