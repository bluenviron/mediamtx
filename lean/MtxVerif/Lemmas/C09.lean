/-
C09 — helper definitions and lemmas for Props/C09: well-formed parameter trees, silent prefixes, and the
inertness theorem (a tree no variable concerns is returned unchanged).
-/
import MtxVerif.Model.C09

namespace MtxVerif.C09

def ptrOf : Option V → V
  | none => .nil
  | some v => .some v

/-- shape of a value w.r.t. `dispatch` -/
def wfD (wfA : Ty → Option V → Bool) (t : Ty) (v : V) : Bool :=
  match t with
  | .ptr (.ptr _) => false
  | .ptr t' => (match v with | .nil => wfA t' none | .some w => wfA t' (some w) | _ => false)
  | _ => wfA t (some v)

def wfFieldsWith (wfA : Ty → Option V → Bool) : List (Bytes × Ty) → List V → Bool
  | [], [] => true
  | [], _ :: _ => false
  | _ :: _, [] => false
  | (tag, t) :: fs, v :: vs => (tag == b!"-" || wfD wfA t v) && wfFieldsWith wfA fs vs

/-- the type/value trees the loader can walk (down to depth `fuel`) without error or panic when no variable
concerns them: supported kinds, shapes match, no nil `*struct` -/
def wfAt : Nat → Ty → Option V → Bool
  | 0, _, _ => false
  | f + 1, t, cur? =>
    match t with
    | .str | .int | .uint | .float | .bool | .unm | .unmStruct _ | .strList | .uintList | .floatList => true
    | .map _ => (match cur? with | some (.map _) => true | some .nilMap => true | _ => false)
    | .struct fs =>
      (match cur? with
       | none => fs.all (fun ft => ft.1 == b!"-")
       | some (.struct vs) => wfFieldsWith (wfAt f) fs vs
       | _ => false)
    | .structList fs =>
      (match cur? with
       | none => true
       | some .nilList => true
       | some (.list items) => items.all (fun it => wfD (wfAt f) (.struct fs) it)
       | _ => false)
    | _ => false

theorem hasKey_mono {e : Env} {p q : Bytes} (h : hasKeyWithPrefix e p = false) : hasKeyWithPrefix e (p ++ q) = false := by
  simp only [hasKeyWithPrefix, List.any_eq_false, List.isPrefixOf_iff_prefix] at *
  exact fun kv hkv hc => h kv hkv ((List.prefix_append p q).trans hc)

theorem get_none_of_noKey {e : Env} {p : Bytes} (h : hasKeyWithPrefix e p = false) : e.get p = none := by
  simp only [hasKeyWithPrefix, List.any_eq_false, List.isPrefixOf_iff_prefix] at h
  rw [Env.get, Option.map_eq_none_iff, List.find?_eq_none]
  exact fun kv hkv hk => h kv hkv (beq_iff_eq.mp hk ▸ List.prefix_rfl)

/-- nothing in the environment concerns the parameter at `pfx`: no variable is exactly `pfx`, none addresses a
child `pfx_…` and, for the loader before /repo 7bda13e, none merely starts with the same letters -/
def Silent (fx : Bool) (e : Env) (pfx : Bytes) : Prop :=
  e.get pfx = none ∧ hasKeyWithPrefix e (pfx ++ [95]) = false ∧ (fx = false → hasKeyWithPrefix e pfx = false)

theorem silent_child {fx : Bool} {e : Env} {pfx : Bytes} (h : Silent fx e pfx) (x : Bytes) :
    Silent fx e (pfx ++ [95] ++ x) :=
  ⟨get_none_of_noKey (hasKey_mono h.2.1), List.append_assoc .. ▸ hasKey_mono (q := x ++ [95]) h.2.1,
    fun hf => List.append_assoc .. ▸ hasKey_mono (q := [95] ++ x) (h.2.2 hf)⟩

theorem Ty.ptr_or (t : Ty) : (∃ u, t = .ptr u) ∨ ∀ u, t ≠ .ptr u := by
  cases t <;> first | exact .inl ⟨_, rfl⟩ | exact .inr fun _ h => nomatch h

theorem dispatch_ptr {t : Ty} (ht : ∀ u, t ≠ .ptr u) (la : Bytes → Ty → Option V → Outcome V) (pfx : Bytes) (cur : V) :
    dispatch la pfx (.ptr t) cur =
      match cur with
      | .nil => la pfx t none
      | .some v => la pfx t (some v)
      | _ => .err := by
  cases t <;> first | rfl | exact absurd rfl (ht _)

theorem dispatch_val {t : Ty} (ht : ∀ u, t ≠ .ptr u) (la : Bytes → Ty → Option V → Outcome V) (pfx : Bytes) (cur : V) :
    dispatch la pfx t cur =
      match la pfx t (some cur) with
      | .ok (.some v) => .ok v
      | .ok _ => .err
      | .err => .err
      | .panic => .panic
      | .nondet => .nondet := by
  cases t <;> first | rfl | exact absurd rfl (ht _)

theorem wfD_ptr {t : Ty} (ht : ∀ u, t ≠ .ptr u) (wfA : Ty → Option V → Bool) (v : V) :
    wfD wfA (.ptr t) v = match v with | .nil => wfA t none | .some w => wfA t (some w) | _ => false := by
  cases t <;> first | rfl | exact absurd rfl (ht _)

theorem wfD_val {t : Ty} (ht : ∀ u, t ≠ .ptr u) (wfA : Ty → Option V → Bool) (v : V) :
    wfD wfA t v = wfA t (some v) := by
  cases t <;> first | rfl | exact absurd rfl (ht _)

theorem dispatch_inert (la : Bytes → Ty → Option V → Outcome V) (wfA : Ty → Option V → Bool) (pfx : Bytes)
    (hla : ∀ t c, wfA t c = true → la pfx t c = .ok (ptrOf c)) (t : Ty) (v : V) (hw : wfD wfA t v = true) :
    dispatch la pfx t v = .ok v := by
  rcases t.ptr_or with ⟨t, rfl⟩ | ht
  · rcases t.ptr_or with ⟨_, rfl⟩ | ht
    · cases hw
    · rw [wfD_ptr ht] at hw
      rw [dispatch_ptr ht]
      cases v <;> first | exact hla _ _ hw | cases hw
  · rw [wfD_val ht] at hw
    rw [dispatch_val ht, hla _ _ hw]
    rfl

def InertFields (child : Bytes → Ty → V → Outcome V) (pfx : Bytes) : List (Bytes × Ty) → List V → Prop
  | [], [] => True
  | (tag, t) :: fs, v :: vs =>
    ((tag == b!"-") = true ∨ child (pfx ++ [95] ++ fieldKey tag) t v = .ok v) ∧ InertFields child pfx fs vs
  | _, _ => False

theorem loadFieldsWith_skip (child : Bytes → Ty → V → Outcome V) (pfx : Bytes) (fs2 : List (Bytes × Ty)) (vs2 : List V) :
    ∀ (fs1 : List (Bytes × Ty)) (vs1 acc : List V), InertFields child pfx fs1 vs1 →
      loadFieldsWith child pfx (fs1 ++ fs2) (vs1 ++ vs2) acc = loadFieldsWith child pfx fs2 vs2 (vs1.reverse ++ acc)
  | [], [], _, _ => rfl
  | [], _ :: _, _, h => h.elim
  | _ :: _, [], _, h => h.elim
  | (tag, t) :: fs1, v :: vs1, acc, h => by
    have ih := loadFieldsWith_skip child pfx fs2 vs2 fs1 vs1 (v :: acc) h.2
    rw [List.reverse_cons, List.append_assoc, List.singleton_append, ← ih]
    show loadFieldsWith child pfx ((tag, t) :: (fs1 ++ fs2)) (v :: (vs1 ++ vs2)) acc = _
    rw [loadFieldsWith]
    rcases h.1 with ht | hc
    · rw [if_pos ht]
    · split
      · rfl
      · rw [hc]

theorem loadFieldsWith_inert (child : Bytes → Ty → V → Outcome V) (pfx : Bytes) (fs : List (Bytes × Ty)) (vs acc : List V)
    (h : InertFields child pfx fs vs) : loadFieldsWith child pfx fs vs acc = .ok (.struct (acc.reverse ++ vs)) := by
  have := loadFieldsWith_skip child pfx [] [] fs vs acc h
  rw [List.append_nil, List.append_nil] at this
  rw [this, loadFieldsWith, List.reverse_append, List.reverse_reverse]

theorem inertFields_of_wf (child : Bytes → Ty → V → Outcome V) (wfA : Ty → Option V → Bool) (pfx : Bytes)
    (hchild : ∀ x t v, wfD wfA t v = true → child (pfx ++ [95] ++ x) t v = .ok v) :
    ∀ (fs : List (Bytes × Ty)) (vs : List V), wfFieldsWith wfA fs vs = true → InertFields child pfx fs vs
  | [], [], _ => trivial
  | [], _ :: _, h => nomatch h
  | _ :: _, [], h => nomatch h
  | (tag, t) :: fs, v :: vs, h => by
    rw [wfFieldsWith, Bool.and_eq_true, Bool.or_eq_true] at h
    exact ⟨h.1.imp id (hchild _ t v), inertFields_of_wf child wfA pfx hchild fs vs h.2⟩

/-- struct-list loop with no item variables and children that leave their values alone -/
theorem loadItemsWith_inert (child : Bytes → Ty → V → Outcome V) (e : Env) (pfx : Bytes) (fs : List (Bytes × Ty))
    (hno : hasKeyWithPrefix e (pfx ++ [95]) = false) :
    ∀ (steps i : Nat) (items : List V), items.length + 1 ≤ steps + i → 1 ≤ steps →
      (∀ it ∈ items, ∀ x, child (pfx ++ [95] ++ x) (.struct fs) it = .ok it) →
      loadItemsWith child e pfx fs steps i items = .ok items
  | 0, _, _, _, h1, _ => absurd h1 (by decide)
  | steps + 1, i, items, hs, _, hchild => by
    rw [loadItemsWith, hasKey_mono hno]
    by_cases hi : items.length ≤ i
    · rw [if_pos (by simp [hi])]
    · have hlt : i < items.length := by omega
      have hget : items.getD i .other = items[i] := by
        rw [List.getD_eq_getElem?_getD, List.getElem?_eq_getElem hlt]; rfl
      simp only [hi, hlt, hget, hchild _ (List.getElem_mem hlt), List.set_getElem_self, Bool.not_false, Bool.true_and,
        decide_false, Bool.false_eq_true, if_false, if_true]
      exact loadItemsWith_inert child e pfx fs hno steps (i + 1) items (by omega) (by omega) hchild

theorem mapKeys_nil {e : Env} {pfx : Bytes} (h : hasKeyWithPrefix e (pfx ++ [95]) = false) : mapKeys e pfx = [] := by
  simp only [hasKeyWithPrefix, List.any_eq_false, Bool.not_eq_true] at h
  unfold mapKeys
  dsimp only
  rw [List.filterMap_eq_nil_iff.mpr fun kv hkv => by rw [h kv hkv]; rfl]
  rfl

/-- **inertness**: a well-formed parameter tree that no variable concerns is returned unchanged -/
theorem loadAt_inert (fx : Bool) (fl : FloatOracle) (e : Env) :
    ∀ (fuel : Nat) (pfx : Bytes) (t : Ty) (cur? : Option V), Silent fx e pfx → wfAt fuel t cur? = true →
      loadAt fx fl e fuel pfx t cur? = .ok (ptrOf cur?)
  | 0, _, _, _, _, hw => nomatch hw
  | fuel + 1, pfx, t, cur?, hs, hw => by
    obtain ⟨hget, hchildren, hcur⟩ := hs
    have hrule : (if fx = true then cur?.isSome && hasKeyWithPrefix e (pfx ++ [95]) else hasKeyWithPrefix e pfx) = false := by
      cases fx
      · exact hcur rfl
      · rw [if_pos rfl, hchildren, Bool.and_false]
    have hchild : ∀ x t v, wfD (wfAt fuel) t v = true →
        dispatch (loadAt fx fl e fuel) (pfx ++ [95] ++ x) t v = .ok v := fun x t v hwd =>
      dispatch_inert _ (wfAt fuel) _
        (fun t c hc => loadAt_inert fx fl e fuel _ t c (silent_child ⟨hget, hchildren, hcur⟩ x) hc) t v hwd
    unfold loadAt
    simp only [hget, hrule]
    unfold wfAt at hw
    cases t <;> dsimp only at hw ⊢
    case ptr | otherList | other => cases hw
    case map elem =>
      rw [mapKeys_nil hchildren]
      split at hw <;> first | rfl | cases hw
    case struct fs =>
      split at hw
      · exact if_pos hw
      · next vs =>
        dsimp only [loadStructWith]
        rw [loadFieldsWith_inert _ _ _ _ _ (inertFields_of_wf _ _ _ hchild fs vs hw)]; rfl
      · cases hw
    case structList fs =>
      have hitems : ∀ (items : List V), (∀ it ∈ items, wfD (wfAt fuel) (.struct fs) it = true) →
          loadItemsWith (dispatch (loadAt fx fl e fuel)) e pfx fs (e.length + items.length + 1) 0 items = .ok items :=
        fun items hall => loadItemsWith_inert _ e pfx fs hchildren _ 0 items (by omega) (by omega)
          fun it hit x => hchild x _ it (hall it hit)
      rw [show ((none : Option Bytes) == some []) = false from rfl, if_neg Bool.false_ne_true]
      split at hw <;> first | dsimp only | cases hw
      · rw [hitems [] nofun]; rfl
      · rw [hitems [] nofun]; rfl
      · next items =>
        rw [hitems items (List.all_eq_true.mp hw)]
        cases items <;> rfl
    all_goals cases cur? <;> rfl

end MtxVerif.C09
