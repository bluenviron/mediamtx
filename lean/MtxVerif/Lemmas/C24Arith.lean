/-
C24 — arithmetic core (no dependency on the generated file; also used by C25).

`exact_split` (no wrap-around), `muldiv_exact` (canonical body with int64 wrap-around is exact whenever
the remainder product fits and the exact result is representable — all signs, every non-zero divisor),
guard discharge for the call-site classes, `muldivFixed_exact` (repaired body, no guard).
-/
import MtxVerif.Model.C24

namespace MtxVerif.C24

/-- The mathematical identity behind the helper (unbounded integers, no wrap-around):
`(v*m) / d = (v/d)*m + ((v%d)*m) / d` with `/`, `%` truncating toward zero — for every `d ≠ 0`, all signs. -/
theorem exact_split (v m d : Int) (hd : d ≠ 0) :
    Int.tdiv (v * m) d = Int.tdiv v d * m + Int.tdiv (Int.tmod v d * m) d := by
  -- Truncated `/` is odd in dividend and divisor, `%` is odd in the dividend and even in the divisor: negating
  -- any of `v`, `m`, `d` negates both sides.  So it is enough to look at `v, m ≥ 0 < d`, where they are the
  -- Euclidean `/` and `%`.
  have pos : ∀ v m d : Int, 0 ≤ v → 0 ≤ m → 0 < d →
      Int.tdiv (v * m) d = Int.tdiv v d * m + Int.tdiv (Int.tmod v d * m) d := by
    intro v m d hv hm hd
    rw [Int.tmod_eq_emod_of_nonneg hv, Int.tdiv_eq_ediv_of_nonneg hv,
      Int.tdiv_eq_ediv_of_nonneg (Int.mul_nonneg hv hm),
      Int.tdiv_eq_ediv_of_nonneg (Int.mul_nonneg (Int.emod_nonneg v (by omega)) hm)]
    conv => lhs; rw [← Int.ediv_mul_add_emod v d]
    rw [Int.add_mul, Int.mul_right_comm, Int.add_comm, Int.add_mul_ediv_right _ _ (by omega), Int.add_comm]
  have anyd : ∀ v m : Int, 0 ≤ v → 0 ≤ m →
      Int.tdiv (v * m) d = Int.tdiv v d * m + Int.tdiv (Int.tmod v d * m) d := by
    intro v m hv hm
    rcases Int.lt_or_gt_of_ne hd with h | h
    · have := pos v m (-d) hv hm (by omega)
      simp only [Int.tdiv_neg, Int.tmod_neg, Int.neg_mul] at this
      omega
    · exact pos v m d hv hm h
  have anym : ∀ v m : Int, 0 ≤ v →
      Int.tdiv (v * m) d = Int.tdiv v d * m + Int.tdiv (Int.tmod v d * m) d := by
    intro v m hv
    rcases Int.le_total 0 m with h | h
    · exact anyd v m hv h
    · have := anyd v (-m) hv (by omega)
      simp only [Int.mul_neg, Int.neg_tdiv] at this
      omega
  rcases Int.le_total 0 v with h | h
  · exact anym v m h
  · have := anym (-v) m (by omega)
    simp only [Int.neg_mul, Int.neg_tdiv, Int.neg_tmod] at this
    omega

theorem wrap64_of_in {x : Int} (h : InI64 x) : wrap64 x = x := by
  unfold wrap64
  obtain ⟨h1, h2⟩ := h
  exact Int.bmod_eq_of_le (by omega) (by omega)

theorem wrap64_in (x : Int) : InI64 (wrap64 x) := by
  unfold wrap64 InI64
  have h1 := Int.le_bmod (x := x) (m := 2 ^ 64) (by decide)
  have h2 := Int.bmod_lt (x := x) (m := 2 ^ 64) (by decide)
  constructor <;> omega

/-- dividing an int64 by a non-negative divisor stays in range (no `MinInt64 / -1`) -/
theorem tdiv_in {x d : Int} (hx : InI64 x) (hd : 0 ≤ d) : InI64 (Int.tdiv x d) := by
  have hb := Int.natAbs_tdiv_le_natAbs x d
  unfold InI64 at *
  rcases Int.le_total 0 x with h | h
  · have := Int.tdiv_nonneg h hd
    omega
  · have := Int.tdiv_nonneg (Int.neg_nonneg_of_nonpos h) hd
    rw [Int.neg_tdiv] at this
    omega

/-- int64 arithmetic is arithmetic modulo 2^64: inner wrap-arounds of `secs*m + q` are absorbed. -/
theorem wrap64_absorb (s m q : Int) :
    wrap64 (wrap64 (wrap64 s * m) + wrap64 q) = wrap64 (s * m + q) := by
  unfold wrap64
  rw [Int.add_bmod_bmod, Int.bmod_add_bmod, Int.add_bmod (Int.bmod s (2 ^ 64) * m) q, Int.bmod_mul_bmod,
    ← Int.add_bmod]

/-- After the proposed repair (128-bit remainder term) no guard is needed. -/
theorem muldivFixed_exact (v m d : Int) (hd : d ≠ 0) (hr : InI64 (exact v m d)) :
    muldivFixed v m d = some (exact v m d) := by
  unfold muldivFixed
  rw [if_neg hd, wrap64_absorb]
  unfold exact at *
  rw [← exact_split v m d hd, wrap64_of_in hr]

/-- **Main theorem (property at full strength, under the exact no-overflow guard).**
For all integers `v m d` (not only int64 values) with `d ≠ 0`: if the remainder product `(v % d) * m` fits in int64
and the exact result is representable, the canonical body — with all its int64 wrap-arounds — returns
the mathematically exact product-then-quotient truncated toward zero.  No sign restriction. -/
theorem muldiv_exact (v m d : Int) (hd : d ≠ 0)
    (hg : InI64 (Int.tmod v d * m)) (hr : InI64 (exact v m d)) :
    muldiv v m d = some (exact v m d) := by
  -- under the guard the body as written is the repaired body
  rw [← muldivFixed_exact v m d hd hr]
  unfold muldiv muldivFixed
  rw [wrap64_of_in hg]

/-- Zero divisor: the Go code panics (explicit outcome, never a silent value). -/
theorem muldiv_zero (v m : Int) : muldiv v m 0 = none ∧ muldivFixed v m 0 = none := by
  simp [muldiv, muldivFixed]

/-- The result is always an int64 (trivially, but it is what the driver compares). -/
theorem muldiv_in (v m d r : Int) (h : muldiv v m d = some r) : InI64 r := by
  unfold muldiv at h
  split at h
  · contradiction
  · cases h; exact wrap64_in _

/-- General guard: positive divisor, non-negative multiplier, `(d-1)*m < 2^63`. -/
theorem guard_of_bound (v m d : Int) (hd : 0 < d) (hm : 0 ≤ m) (hb : (d - 1) * m < 2 ^ 63) :
    InI64 (Int.tmod v d * m) := by
  have h1 := Int.tmod_lt_of_pos v hd
  have h2 := Int.lt_tmod_of_pos v hd
  have hu : Int.tmod v d * m ≤ (d - 1) * m := Int.mul_le_mul_of_nonneg_right (by omega) hm
  have hl : -(d - 1) * m ≤ Int.tmod v d * m := Int.mul_le_mul_of_nonneg_right (by omega) hm
  rw [Int.neg_mul] at hl
  unfold InI64
  omega

/-- Rates bounded by `M` and `D` with `(D-1)*M < 2^63` (one of them a constant `≤ 2^31` such as
`time.Second = 10^9`, `90000`, `48000`, `10^6`, the other anywhere in the property's domain `1 … 2^32`):
the guard holds for *all* `v`. -/
theorem guard_of_rates (v : Int) {m d M D : Int} (hm : 1 ≤ m ∧ m ≤ M) (hd : 1 ≤ d ∧ d ≤ D)
    (hb : (D - 1) * M < 2 ^ 63) : InI64 (Int.tmod v d * m) :=
  guard_of_bound v m d (by omega) (by omega)
    (Int.lt_of_le_of_lt (Int.mul_le_mul (by omega) hm.2 (by omega) (by omega)) hb)

/-- Nanosecond conversions (`timestampToDuration`, `durationMp4ToGo`, NTP estimator): `m = 10^9`. -/
theorem ticks_to_ns_exact (v r : Int) (hr : 1 ≤ r ∧ r ≤ 2 ^ 32) (hx : InI64 (exact v nsPerSec r)) :
    muldiv v nsPerSec r = some (exact v nsPerSec r) :=
  muldiv_exact v nsPerSec r (by omega) (guard_of_rates v (M := 2 ^ 31) (by decide) hr (by decide)) hx

/-- Nanosecond conversions (`durationToTimestamp`, `durationGoToMp4`): `d = 10^9`. -/
theorem ns_to_ticks_exact (v r : Int) (hr : 1 ≤ r ∧ r ≤ 2 ^ 32) (hx : InI64 (exact v r nsPerSec)) :
    muldiv v r nsPerSec = some (exact v r nsPerSec) :=
  muldiv_exact v r nsPerSec (by decide) (guard_of_rates v (D := 2 ^ 31) hr (by decide) (by decide)) hx

end MtxVerif.C24
