/-
C29 — playback list/get return exactly the recorded media in range.  Component theorems.

list, for every segment list a recorder with a monotone clock writes (`WF`): concatenateSegments yields time-ordered,
disjoint spans that contain every recorded segment, one per maximal run of consecutive segments of one stream, each
starting where a segment starts; FindSegments' `start` case keeps the suffix beginning at the segment that contains
`start`; clipping cuts the first span at `start` and the last at `end` and removes a span only if it ends strictly
before `start`.
get: the trun loop feeds the muxer exactly the samples before the first one at or after the cut-off; the muxer
automaton, fed one track's samples, emits the window samples preceded by the pre-roll since the last random-access
point.  The clause "returns the samples whose timestamps fall in the window" (`get_window_full`) is FALSE for the walk
as coded (`get_window_witness`); with one track per segment the walk is the plain loop over all samples
(`single_track_fed`).
-/
import MtxVerif.Model.C29

namespace MtxVerif.C29

def Entry.fin (e : Entry) : Int := e.start + e.dur
def Seg.fin (s : Seg) : Int := s.start + s.dur

/-- what a recorder with a monotone clock writes: non-negative durations, starts and ends non-decreasing, and two
adjacent segments that are NOT merged (different stream / not consecutive) do not overlap.  Consecutive segments of
one stream MAY overlap: the next one starts at the oldest pending sample, the previous one ends with the newest. -/
def WF : List Seg → Prop
  | [] => True
  | [a] => 0 ≤ a.dur
  | a :: b :: r => 0 ≤ a.dur ∧ a.start ≤ b.start ∧ a.fin ≤ b.fin ∧ (canConcat a b = false → a.fin ≤ b.start) ∧ WF (b :: r)

def Ordered (es : List Entry) : Prop := es.Pairwise (fun a b => a.fin ≤ b.start)

theorem Entry.fin_mk (a b : Int) : (⟨a, b - a⟩ : Entry).fin = b := by
  show a + (b - a) = b
  omega

theorem WF.head_dur : ∀ {a : Seg} {r : List Seg}, WF (a :: r) → 0 ≤ a.dur
  | _, [], h => h
  | _, _ :: _, h => h.1

theorem WF.tail : ∀ {a : Seg} {r : List Seg}, WF (a :: r) → WF r
  | _, [], _ => trivial
  | _, _ :: _, h => h.2.2.2.2

theorem WF.append : ∀ {l₁ l₂ : List Seg}, WF (l₁ ++ l₂) → WF l₁ ∧ WF l₂
  | [], _, h => ⟨trivial, h⟩
  | [_], _, h => ⟨h.head_dur, h.tail⟩
  | _ :: b :: r, _, h =>
    have ⟨h1, h2⟩ := WF.append (l₁ := b :: r) h.2.2.2.2
    ⟨⟨h.1, h.2.1, h.2.2.1, h.2.2.2.1, h1⟩, h2⟩

theorem WF.mono : ∀ {a : Seg} {r : List Seg}, WF (a :: r) → ∀ x ∈ r, a.start ≤ x.start ∧ a.fin ≤ x.fin
  | _, [], _, _, hx => nomatch hx
  | a, b :: t, ⟨_, h1, h2, _, h'⟩, x, hx => by
    rcases List.mem_cons.mp hx with rfl | hx
    · exact ⟨h1, h2⟩
    · have := h'.mono x hx
      omega

theorem wf_dur_nonneg : ∀ (l : List Seg), WF l → ∀ x ∈ l, 0 ≤ x.dur
  | [], _, _, hx => nomatch hx
  | a :: r, h, x, hx => by
    rcases List.mem_cons.mp hx with rfl | hx
    · exact h.head_dur
    · exact wf_dur_nonneg r h.tail x hx

theorem concatGo_head (l : List Seg) : ∀ (prev : Seg) (cur : Entry),
    ∃ e t, concatGo prev cur l = e :: t ∧ e.start = cur.start ∧ ∀ x ∈ t, ∃ s ∈ l, x.start = s.start := by
  induction l with
  | nil => exact fun _ cur => ⟨cur, [], rfl, rfl, nofun⟩
  | cons s r ih =>
    intro prev cur
    rw [concatGo]
    split
    · obtain ⟨e, t, h1, h2, h3⟩ := ih s ⟨cur.start, s.start + s.dur - cur.start⟩
      exact ⟨e, t, h1, h2, fun x hx => (h3 x hx).imp fun y hy => ⟨List.mem_cons_of_mem _ hy.1, hy.2⟩⟩
    · obtain ⟨e, t, h1, h2, h3⟩ := ih s ⟨s.start, s.dur⟩
      refine ⟨cur, e :: t, by rw [h1], rfl, fun x hx => ?_⟩
      rcases List.mem_cons.mp hx with rfl | hx
      · exact ⟨s, List.mem_cons_self, h2⟩
      · exact (h3 x hx).imp fun y hy => ⟨List.mem_cons_of_mem _ hy.1, hy.2⟩

theorem concatGo_ne_nil (prev : Seg) (cur : Entry) (l : List Seg) : concatGo prev cur l ≠ [] := by
  obtain ⟨e, t, h, -⟩ := concatGo_head l prev cur
  rw [h]
  exact List.cons_ne_nil e t

/-- every span starts where a recorded segment starts -/
theorem concat_starts (segs : List Seg) : ∀ e ∈ concatenate segs, ∃ s ∈ segs, e.start = s.start := by
  cases segs with
  | nil => nofun
  | cons a r =>
    intro e he
    obtain ⟨e0, t, h, h0, ht⟩ := concatGo_head r a ⟨a.start, a.dur⟩
    rw [concatenate, h] at he
    rcases List.mem_cons.mp he with rfl | he
    · exact ⟨a, List.mem_cons_self, h0⟩
    · exact (ht e he).imp fun y hy => ⟨List.mem_cons_of_mem _ hy.1, hy.2⟩

theorem concatGo_start_le {l : List Seg} {prev : Seg} {cur : Entry} (hwf : WF (prev :: l))
    (hcs : cur.start ≤ prev.start) : ∀ e ∈ concatGo prev cur l, cur.start ≤ e.start := by
  intro e he
  obtain ⟨e0, t, h, h0, ht⟩ := concatGo_head l prev cur
  rw [h] at he
  rcases List.mem_cons.mp he with rfl | he
  · omega
  · obtain ⟨s, hs, hes⟩ := ht e he
    have := hwf.mono s hs
    omega

/-- **time-ordered, non-overlapping** -/
theorem concatGo_ordered (l : List Seg) : ∀ (prev : Seg) (cur : Entry), WF (prev :: l) → cur.fin = prev.fin →
    cur.start ≤ prev.start → Ordered (concatGo prev cur l) := by
  induction l with
  | nil => exact fun _ _ _ _ _ => List.pairwise_singleton _ _
  | cons s r ih =>
    intro prev cur ⟨_, hst, _, hbr, hwf'⟩ hfin hcs
    rw [concatGo]
    split
    · exact ih s _ hwf' (Entry.fin_mk _ _) (Int.le_trans hcs hst)
    · rename_i hnc
      have hs : cur.fin ≤ s.start := hfin ▸ hbr (by simpa using hnc)
      refine List.pairwise_cons.mpr ⟨fun e he => ?_, ih s ⟨s.start, s.dur⟩ hwf' rfl (Int.le_refl _)⟩
      exact Int.le_trans hs (concatGo_start_le hwf' (Int.le_refl _) e he)

theorem concat_ordered (segs : List Seg) (h : WF segs) : Ordered (concatenate segs) := by
  cases segs with
  | nil => exact List.Pairwise.nil
  | cons s r => exact concatGo_ordered r s ⟨s.start, s.dur⟩ h rfl (Int.le_refl _)

/-- **nothing recorded is missing**: the span being built, and every later segment, end up inside one span -/
theorem concatGo_cover (l : List Seg) : ∀ (prev : Seg) (cur : Entry), WF (prev :: l) → cur.fin = prev.fin →
    cur.start ≤ prev.start →
    (∃ e ∈ concatGo prev cur l, e.start = cur.start ∧ cur.fin ≤ e.fin) ∧
    (∀ s ∈ l, ∃ e ∈ concatGo prev cur l, e.start ≤ s.start ∧ s.fin ≤ e.fin) := by
  induction l with
  | nil => exact fun _ cur _ _ _ => ⟨⟨cur, List.mem_singleton_self _, rfl, Int.le_refl _⟩, nofun⟩
  | cons s r ih =>
    intro prev cur ⟨_, hst, hfn, _, hwf'⟩ hfin hcs
    rw [concatGo]
    split
    · -- `s` extends the span being built, and the extended span contains both
      have hcs' : cur.start ≤ s.start := Int.le_trans hcs hst
      obtain ⟨⟨e, he, e1, e2⟩, i2⟩ := ih s ⟨cur.start, s.start + s.dur - cur.start⟩ hwf' (Entry.fin_mk _ _) hcs'
      rw [Entry.fin_mk] at e2
      refine ⟨⟨e, he, e1, hfin ▸ Int.le_trans hfn e2⟩, fun x hx => ?_⟩
      rcases List.mem_cons.mp hx with rfl | hx
      · exact ⟨e, he, e1 ▸ hcs', e2⟩
      · exact i2 x hx
    · obtain ⟨⟨e, he, e1, e2⟩, i2⟩ := ih s ⟨s.start, s.dur⟩ hwf' rfl (Int.le_refl _)
      refine ⟨⟨cur, List.mem_cons_self, rfl, Int.le_refl _⟩, fun x hx => ?_⟩
      rcases List.mem_cons.mp hx with rfl | hx
      · exact ⟨e, List.mem_cons_of_mem _ he, Int.le_of_eq e1, e2⟩
      · exact (i2 x hx).imp fun e' he' => ⟨List.mem_cons_of_mem _ he'.1, he'.2⟩

theorem concat_cover (segs : List Seg) (h : WF segs) :
    ∀ s ∈ segs, ∃ e ∈ concatenate segs, e.start ≤ s.start ∧ s.fin ≤ e.fin := by
  cases segs with
  | nil => nofun
  | cons a r =>
    intro s hs
    obtain ⟨⟨e, he, e1, e2⟩, i2⟩ := concatGo_cover r a ⟨a.start, a.dur⟩ h rfl (Int.le_refl _)
    rcases List.mem_cons.mp hs with rfl | hs
    · exact ⟨e, he, Int.le_of_eq e1, e2⟩
    · exact i2 s hs

/-- number of places where two adjacent segments are NOT (same stream ∧ consecutive numbers) -/
def breaks : Seg → List Seg → Nat
  | _, [] => 0
  | prev, s :: r => (if canConcat prev s then 0 else 1) + breaks s r

/-- **merge only consecutive segments of one stream**: one span per maximal run -/
theorem concatGo_length (l : List Seg) : ∀ (prev : Seg) (cur : Entry),
    (concatGo prev cur l).length = 1 + breaks prev l := by
  induction l with
  | nil => exact fun _ _ => rfl
  | cons s r ih =>
    intro prev cur
    rw [concatGo, breaks]
    split
    · rw [ih, Nat.zero_add]
    · rw [List.length_cons, ih, Nat.add_comm]

/-- FindSegments with `start`: the kept list is a suffix of the (sorted) list beginning with the segment that
contains `start`, and the next one begins after `start`. -/
theorem dropBefore_spec (st : Int) : ∀ (l r : List Seg), dropBefore st l = some r →
    ∃ pre a b t, l = pre ++ r ∧ r = a :: b :: t ∧ a.start ≤ st ∧ st < b.start
  | [], _, h | [_], _, h => nomatch h
  | a :: b :: t, r, h => by
    rw [dropBefore] at h
    split at h
    · cases h
      exact ⟨[], a, b, t, rfl, rfl, ‹_›⟩
    · obtain ⟨pre, a', b', t', e1, e234⟩ := dropBefore_spec st (b :: t) r h
      exact ⟨a :: pre, a', b', t', e1 ▸ rfl, e234⟩

/-- the part of a span at or after `st` -/
def Entry.after (st : Int) (e : Entry) : Entry := if e.start < st then ⟨st, e.dur - (st - e.start)⟩ else e

/-- the part of a span at or before `fin` -/
def Entry.upTo (fin : Int) (e : Entry) : Entry := if e.start + e.dur > fin then ⟨e.start, fin - e.start⟩ else e

theorem Entry.after_start (st : Int) (e : Entry) : (e.after st).start = max e.start st := by
  unfold Entry.after
  split
  · show st = max e.start st
    omega
  · omega

theorem Entry.after_fin (st : Int) (e : Entry) : (e.after st).fin = e.fin := by
  unfold Entry.after
  split
  · show st + (e.dur - (st - e.start)) = e.start + e.dur
    omega
  · rfl

theorem Entry.upTo_start (fin : Int) (e : Entry) : (e.upTo fin).start = e.start := by
  unfold Entry.upTo
  split <;> rfl

theorem Entry.upTo_fin (fin : Int) (e : Entry) : (e.upTo fin).fin = min e.fin fin := by
  unfold Entry.upTo Entry.fin
  split
  · show e.start + (fin - e.start) = min (e.start + e.dur) fin
    omega
  · omega

theorem Entry.upTo_of_le {fin : Int} {e : Entry} (h : e.fin ≤ fin) : e.upTo fin = e :=
  if_neg (Int.not_lt.mpr h)

theorem clipStart_cons (st : Int) (e : Entry) (r : List Entry) :
    clipStart (some st) (e :: r) =
      if e.fin < st then (if r.isEmpty then none else some r) else some (e.after st :: r) := by
  simp only [clipStart, Entry.after, Entry.fin]
  exact ite_congr rfl (fun _ => rfl) fun _ => by split <;> rfl

/-- clipping at `start` when only the first span can begin before `start` (FindSegments): the first span is dropped
if it ends strictly before `start`, nothing that reaches `start` is, and what is kept is cut at `start`; 404 if
nothing is kept -/
theorem clipStart_kept {st : Int} {e : Entry} {r : List Entry} (hr : ∀ x ∈ r, st ≤ x.start) :
    ∃ l : List Entry, l.Sublist (e :: r) ∧ (∀ x ∈ e :: r, st ≤ x.fin → x ∈ l) ∧
      clipStart (some st) (e :: r) = if l.isEmpty then none else some (l.map (Entry.after st)) := by
  refine ⟨if e.fin < st then r else e :: r, ?_, fun x hx hxf => ?_, ?_⟩
  · split
    · exact List.sublist_cons_self e r
    · exact List.Sublist.refl _
  · split
    · exact (List.mem_cons.mp hx).resolve_left fun h => by subst h; omega
    · exact hx
  · have hmap : r.map (Entry.after st) = r :=
      (List.map_congr_left fun x hx => if_neg (Int.not_lt.mpr (hr x hx))).trans (List.map_id r)
    rw [clipStart_cons]
    split
    · rw [hmap]
    · rw [List.map_cons, hmap]
      rfl

theorem clipEnd_concat (fin : Int) (L : List Entry) (a : Entry) :
    clipEnd (some fin) (L ++ [a]) = L ++ [a.upTo fin] := by
  unfold clipEnd Entry.upTo
  rw [List.getLast?_concat]
  simp only []
  split
  · rw [List.dropLast_concat]
  · rfl

/-- when every span begins at or before `fin`, clipping at `fin` cuts every span there: only the last one can reach
beyond it -/
theorem clipEnd_eq_map (fin : Int) (es : List Entry) (ho : Ordered es) (hs : ∀ x ∈ es, x.start ≤ fin) :
    clipEnd (some fin) es = es.map (Entry.upTo fin) := by
  rcases List.eq_nil_or_concat es with rfl | ⟨L, a, rfl⟩
  · rfl
  · rw [List.concat_eq_append] at ho hs ⊢
    have hL : L.map (Entry.upTo fin) = L.map id := List.map_congr_left fun x hx =>
      Entry.upTo_of_le (Int.le_trans ((List.pairwise_append.mp ho).2.2 x hx a (List.mem_singleton_self a))
        (hs a (List.mem_append_right _ (List.mem_singleton_self a))))
    rw [clipEnd_concat, List.map_append, hL, List.map_id, List.map_singleton]

/-- clipping at `end`: given that every span begins at or before `end` (FindSegments' filter), every span of the
result ends at or before `end`, and only the last span is changed -/
theorem clipEnd_spec (fin : Int) (es : List Entry) (ho : Ordered es) (hs : ∀ x ∈ es, x.start ≤ fin) :
    (∀ x ∈ clipEnd (some fin) es, x.fin ≤ fin) ∧ (clipEnd (some fin) es).dropLast = es.dropLast ∧
    (clipEnd (some fin) es).length = es.length := by
  refine ⟨fun x hx => ?_, ?_, by rw [clipEnd_eq_map fin es ho hs, List.length_map]⟩
  · rw [clipEnd_eq_map fin es ho hs] at hx
    obtain ⟨y, -, rfl⟩ := List.mem_map.mp hx
    rw [Entry.upTo_fin]
    omega
  · rcases List.eq_nil_or_concat es with rfl | ⟨L, a, rfl⟩
    · rfl
    · rw [List.concat_eq_append, clipEnd_concat, List.dropLast_concat, List.dropLast_concat]

/-- the trun loop hands the muxer exactly the samples before the first one at or after the cut-off -/
theorem walkSamples_spec (off cut : Int) : ∀ (l : List (Nat × Bool × Int)) (m : MTrack),
    (walkSamples off cut m l).1 =
      (l.takeWhile (fun x => decide (x.2.2 + off < cut))).foldl (fun m x => muxStep m ⟨x.1, x.2.1, x.2.2 + off⟩) m
  | [], _ => rfl
  | (id, ns, d) :: r, m => by
    rw [walkSamples, List.takeWhile_cons]
    by_cases h : d + off ≥ cut
    · rw [if_pos h, if_neg (by simpa using h)]
      rfl
    · rw [if_neg h, if_pos (by simpa using h), List.foldl_cons]
      exact walkSamples_spec off cut r _

/-- ids of the pre-roll kept in the buffer: from the last random-access sample on -/
def gop : List Nat → List Smp → List Nat
  | acc, [] => acc
  | acc, s :: r => gop (if s.nonSync then acc ++ [s.id] else [s.id]) r

/-! `muxStep` by cases: a sample before the start, the first one at or after it, the later ones -/

theorem muxStep_neg {t : MTrack} {s : Smp} (h : s.dts < 0) :
    muxStep t s = { t with buf := if s.nonSync then t.buf ++ [s.id] else [s.id] } := by
  rw [muxStep, if_neg (Int.not_le.mpr h)]
  cases s.nonSync <;> rfl

theorem muxStep_first {t : MTrack} {s : Smp} (h : 0 ≤ s.dts) (ht : t.seenVisible = false) :
    muxStep t s =
      { t with seenVisible := true, firstDTS := s.dts, buf := (if s.nonSync then t.buf else []) ++ [s.id] } := by
  rw [muxStep, if_pos h, ht]
  cases s.nonSync <;> rfl

theorem muxStep_seen {t : MTrack} {s : Smp} (h : 0 ≤ s.dts) (ht : t.seenVisible = true) :
    muxStep t s = { t with buf := t.buf ++ [s.id] } := by
  rw [muxStep, if_pos h, ht]
  rfl

theorem muxStep_tid (t : MTrack) (s : Smp) : (muxStep t s).tid = t.tid := by
  by_cases h : s.dts < 0
  · rw [muxStep_neg h]
  · cases ht : t.seenVisible
    · rw [muxStep_first (Int.not_lt.mp h) ht]
    · rw [muxStep_seen (Int.not_lt.mp h) ht]

theorem mux_preroll : ∀ (pre : List Smp) (t : MTrack), (∀ s ∈ pre, s.dts < 0) →
    pre.foldl muxStep t = { t with buf := gop t.buf pre }
  | [], _, _ => rfl
  | s :: r, t, h => by
    rw [List.foldl_cons, muxStep_neg (h s List.mem_cons_self),
      mux_preroll r _ fun x hx => h x (List.mem_cons_of_mem _ hx)]
    rfl

theorem mux_visible : ∀ (vis : List Smp) (t : MTrack), t.seenVisible = true → (∀ s ∈ vis, 0 ≤ s.dts) →
    vis.foldl muxStep t = { t with buf := t.buf ++ vis.map (·.id) }
  | [], t, _, _ => by rw [List.map_nil, List.append_nil]; rfl
  | s :: r, t, ht, h => by
    rw [List.foldl_cons, muxStep_seen (h s List.mem_cons_self) ht,
      mux_visible r { t with buf := t.buf ++ [s.id] } ht fun x hx => h x (List.mem_cons_of_mem _ hx), List.map_cons]
    simp only [List.append_assoc, List.singleton_append]

/-- a track with nothing inside the window sends nothing -/
theorem mux_nothing_visible (tid : Nat) (pre : List Smp) (hneg : ∀ s ∈ pre, s.dts < 0) :
    (pre.foldl muxStep { tid := tid }).seenVisible = false := by
  rw [mux_preroll pre _ hneg]

/-- ids handed to the muxer for track `tid` by the walk of one segment -/
def fedIds (ms : List MTrack) (tid : Nat) : List Nat :=
  match ms.find? (fun m => m.tid == tid) with
  | some m => m.buf
  | none => []

/-- "every sample of the segment whose timestamp is inside the window is returned" — for the walk as coded -/
def get_window_full : Prop :=
  ∀ (tracks : List TrackInfo) (parts : List (List PTrk)) (durNs : Int) (ti : TrackInfo), ti ∈ tracks →
    ∀ p ∈ parts, ∀ pt ∈ p, pt.tid = ti.tid → ∀ x ∈ pt.samples, 0 ≤ x.2.2 → x.2.2 < goToMp4 durNs ti.ts →
      x.1 ∈ fedIds (walkSeg tracks 0 durNs (tracks.map fun t => { tid := t.tid }) parts) ti.tid

/-- two tracks at 1 kHz, window 1 s.  Part 0 holds track 1 up to t = 1.2 s (beyond the window) and track 2 up to
0.5 s; part 1 holds track 2 at 0.7 s — inside the window, never returned: the walk stops at the first mdat after
ANY track passed the end of the window. -/
def witnessTracks : List TrackInfo := [⟨1, 1000⟩, ⟨2, 1000⟩]
def witnessParts : List (List PTrk) :=
  [[⟨1, [(1, false, 0), (2, false, 1200)]⟩, ⟨2, [(3, false, 500)]⟩], [⟨2, [(4, false, 700)]⟩]]

theorem get_window_witness : ¬ get_window_full := by
  intro h
  have := h witnessTracks witnessParts 1000000000 ⟨2, 1000⟩ (by decide) [⟨2, [(4, false, 700)]⟩] (by decide)
    ⟨2, [(4, false, 700)]⟩ (by decide) rfl (4, false, 700) (by decide) (by decide) (by decide)
  revert this
  decide

/-! with ONE track per segment the walk is the plain trun loop over all samples of the file, so (timestamps
non-decreasing) everything inside the window reaches the muxer -/

theorem walkSamples_tid (off cut : Int) : ∀ (l : List (Nat × Bool × Int)) (m : MTrack),
    (walkSamples off cut m l).1.tid = m.tid
  | [], _ => rfl
  | (id, ns, d) :: r, m => by
    rw [walkSamples]
    split
    · rfl
    · rw [walkSamples_tid off cut r, muxStep_tid]

theorem walkSamples_append (off cut : Int) : ∀ (l1 l2 : List (Nat × Bool × Int)) (m : MTrack),
    walkSamples off cut m (l1 ++ l2) =
      if (walkSamples off cut m l1).2 then walkSamples off cut m l1
      else walkSamples off cut (walkSamples off cut m l1).1 l2
  | [], _, _ => rfl
  | (id, ns, d) :: r, l2, m => by
    rw [List.cons_append, walkSamples, walkSamples]
    split
    · rfl
    · exact walkSamples_append off cut r l2 _

/-- a part that holds one track is one run of the trun loop -/
theorem walkPart_single {tracks : List TrackInfo} {ti : TrackInfo} {tid : Nat} (dtsNs durNs : Int)
    (hfind : tracks.find? (fun t => t.tid == tid) = some ti) {m : MTrack} (hm : m.tid = tid)
    (l : List (Nat × Bool × Int)) :
    walkPart tracks dtsNs durNs [m] [⟨tid, l⟩] =
      ([(walkSamples (goToMp4 dtsNs ti.ts) (goToMp4 durNs ti.ts) m l).1],
       (walkSamples (goToMp4 dtsNs ti.ts) (goToMp4 durNs ti.ts) m l).2) := by
  have hm' : (m.tid == tid) = true := beq_iff_eq.mpr hm
  have hf : [m].find? (fun x => x.tid == tid) = some m := List.find?_cons_of_pos hm'
  simp only [walkPart, hfind, hf, updTrack, List.map, hm', if_true, Bool.or_false]

theorem walkSeg_single_track (tracks : List TrackInfo) (ti : TrackInfo) (tid : Nat) (dtsNs durNs : Int)
    (hfind : tracks.find? (fun t => t.tid == tid) = some ti) :
    ∀ (parts : List (List (Nat × Bool × Int))) (m : MTrack), m.tid = tid →
      walkSeg tracks dtsNs durNs [m] (parts.map fun l => [(⟨tid, l⟩ : PTrk)]) =
        [(walkSamples (goToMp4 dtsNs ti.ts) (goToMp4 durNs ti.ts) m parts.flatten).1]
  | [], _, _ => rfl
  | l :: r, m, hm => by
    rw [List.map_cons, List.flatten_cons, walkSeg, walkPart_single dtsNs durNs hfind hm, walkSamples_append]
    simp only []
    split
    · rfl
    · exact walkSeg_single_track tracks ti tid dtsNs durNs hfind r _ (by rw [walkSamples_tid, hm])

/-- …hence, by `walkSamples_spec`, the muxer of a single-track segment receives exactly the samples before the first
one at or after the end of the window -/
theorem single_track_fed (tracks : List TrackInfo) (ti : TrackInfo) (tid : Nat) (dtsNs durNs : Int)
    (hfind : tracks.find? (fun t => t.tid == tid) = some ti) (parts : List (List (Nat × Bool × Int))) :
    walkSeg tracks dtsNs durNs [{ tid := tid }] (parts.map fun l => [(⟨tid, l⟩ : PTrk)]) =
      [(parts.flatten.takeWhile (fun x => decide (x.2.2 + goToMp4 dtsNs ti.ts < goToMp4 durNs ti.ts))).foldl
        (fun m x => muxStep m ⟨x.1, x.2.1, x.2.2 + goToMp4 dtsNs ti.ts⟩) { tid := tid }] := by
  rw [walkSeg_single_track tracks ti tid dtsNs durNs hfind parts { tid := tid } rfl, walkSamples_spec]

def exSegs : List Seg := [⟨0, 10, 1, 0⟩, ⟨10, 10, 1, 1⟩, ⟨25, 5, 1, 2⟩, ⟨40, 10, 2, 0⟩]

example : WF exSegs := by simp [exSegs, WF, Seg.fin]
example : concatenate exSegs = [⟨0, 30⟩, ⟨40, 10⟩] := by decide
example : listModel exSegs (some 12) (some 45) = some [⟨12, 18⟩, ⟨40, 5⟩] := by decide
example : listModel exSegs (some 31) (some 45) = some [⟨40, 5⟩] := by decide          -- first span ended before start
example : listModel exSegs (some 30) (some 45) = some [⟨30, 0⟩, ⟨40, 5⟩] := by decide  -- edge: zero-length span
example : listModel exSegs (some 60) none = none := by decide

end MtxVerif.C29
