/- PathSM: what a property of the running step has to tolerate for the availability helpers to keep it.  The prefix
form of the outputs, the request accounting and the hook pairs are three such properties. -/
import MtxVerif.Lemmas.C18PathSM

namespace MtxVerif.PathSM

/-- "pair is open" flag of the state -/
def flag (h : Hook) (s : State) : Bool :=
  match h with | .avail => s.hkAvail | .online => s.hkOnline | .demand => s.hkDemand

/-- record in the state that the pair of hook `k` is open (`b`) or closed -/
def setFlag (k : Hook) (b : Bool) (s : State) : State :=
  match k with
  | .avail => { s with hkAvail := b }
  | .online => { s with hkOnline := b }
  | .demand => { s with hkDemand := b }

/-- the part of the state that the request accounting and the hook pairs read -/
def held (s : State) : List Nat × List (Nat × Nat) × Bool × Bool × Bool :=
  (s.descHold, s.readHold, s.hkAvail, s.hkOnline, s.hkDemand)

/-- neither the answer to a request nor a hook -/
def Out.plain : Out → Bool
  | .reply .. | .hook .. => false
  | _ => true

/-- `R` survives a plain output, a state change outside `held`, and a hook that flips its flag (`strict`: only
when the flag really flips). -/
structure Keeps (strict : Prop) (R : W → Prop) : Prop where
  plain : ∀ (o : Out) {w : W}, o.plain = true → R w → R (emit o w)
  frame : ∀ (f : State → State) {w : W}, held (f w.s) = held w.s → R w → R (upd f w)
  fire : ∀ (k : Hook) (b : Bool) {w : W}, (strict → flag k w.s = !b) → R w → R (emit (.hook k b) (upd (setFlag k b) w))

section
variable {strict : Prop} {R : W → Prop} (K : Keeps strict R) {w : W}
include K

theorem Keeps.plains (l : List Out) (hl : ∀ o ∈ l, o.plain = true) (h : R w) : R { w with out := w.out ++ l } := by
  induction l generalizing w with
  | nil => simpa using h
  | cons o l ih =>
    have := ih (fun o' ho' => hl o' (List.mem_cons_of_mem _ ho')) (K.plain o (hl o List.mem_cons_self) h)
    simpa using this

theorem panic_keeps (h : R w) : R (panic w) := K.plain _ rfl (K.frame _ rfl h)

theorem setOffline_keeps (h : R w) : R (setOffline w) := by
  unfold setOffline
  split
  · exact K.fire .online false (fun _ => ‹_›) h
  · exact h

theorem setOnline_keeps (h : R w) : R (setOnline w) :=
  K.fire .online true (fun _ => by rw [setOffline_s]; rfl) (setOffline_keeps K h)

/-- opens the `avail` pair: it has to be closed -/
theorem setAvailable_keeps (hpre : strict → w.s.hkAvail = false) (h : R w) : R (setAvailable w) := by
  unfold setAvailable
  dsimp only
  have h1 := K.fire .avail true
    (w := upd (fun s => { s with stream := some s.nextStream, nextStream := s.nextStream + 1 }) w) hpre (K.frame _ rfl h)
  apply K.plain _ rfl
  split
  · exact h1
  · exact setOnline_keeps K h1

theorem closeReaders_keeps (h : R w) : R (closeReaders w) :=
  K.frame (fun s => { s with readers := [] }) rfl
    (K.plains (w.s.readers.map Out.readerClosed) (fun o ho => by obtain ⟨r, _, rfl⟩ := List.mem_map.mp ho; rfl) h)

/-- closes the `avail` pair if it is open and panics otherwise -/
theorem setNotAvailable_keeps (h : R w) : R (setNotAvailable w) := by
  unfold setNotAvailable
  dsimp only
  have h1 := closeReaders_keeps K (setOffline_keeps K (K.plain .pathNotReady rfl h))
  generalize closeReaders (setOffline (emit .pathNotReady w)) = w1 at h1 ⊢
  apply K.frame _ rfl
  split
  · exact K.fire .avail false (fun _ => ‹_›) h1
  · exact panic_keeps K h1

theorem executeRemovePublisher_keeps (h : R w) : R (executeRemovePublisher w) := by
  unfold executeRemovePublisher startOffline
  dsimp only
  apply K.frame _ rfl
  split
  · exact K.frame _ rfl (setOffline_keeps K h)
  · exact setNotAvailable_keeps K h

theorem srcStart_keeps (h : R w) : R (srcStart w) := by
  unfold srcStart
  split
  · exact panic_keeps K h
  · exact K.plain _ rfl (K.frame _ rfl h)

theorem srcStop_keeps (h : R w) : R (srcStop w) := by
  unfold srcStop
  split
  · exact K.plain _ rfl (K.frame _ rfl h)
  · exact panic_keeps K h

theorem onDemandStaticSourceStop_keeps (h : R w) : R (onDemandStaticSourceStop w) := by
  unfold onDemandStaticSourceStop
  dsimp only
  apply srcStop_keeps K (K.frame _ rfl _)
  split
  · exact K.plain _ rfl (K.frame _ rfl h)
  · exact h

/-- closes the `demand` pair if it is open and panics otherwise -/
theorem onDemandPublisherStop_keeps (h : R w) : R (onDemandPublisherStop w) := by
  unfold onDemandPublisherStop
  dsimp only
  have h1 : R (if w.s.odPub = .closing then emit (.disarm .pubClose) (upd (fun s => { s with tPubClose := false }) w) else w) := by
    split
    · exact K.plain _ rfl (K.frame _ rfl h)
    · exact h
  generalize (if w.s.odPub = .closing then emit (.disarm .pubClose) (upd (fun s => { s with tPubClose := false }) w) else w) = w1 at h1 ⊢
  apply K.frame _ rfl
  split
  · exact K.fire .demand false (fun _ => ‹_›) h1
  · exact panic_keeps K h1

theorem onDemandPublisherWaitAgain_keeps (h : R w) : R (onDemandPublisherWaitAgain w) := by
  unfold onDemandPublisherWaitAgain
  dsimp only
  split
  · exact h
  · apply K.plain _ rfl (K.frame _ rfl _)
    split
    · exact K.plain _ rfl (K.frame _ rfl h)
    · exact h

/-- may open the `demand` pair, namely when the on-demand publisher automaton is in its initial state -/
theorem holdDemand_keeps (hpre : strict → w.s.conf.odStatic = false → w.s.odPub = .initial → w.s.hkDemand = false)
    (h : R w) : R (holdDemand w) := by
  unfold holdDemand
  split
  · split
    · exact K.plain _ rfl (K.frame _ rfl (srcStart_keeps K h))
    · exact h
  · rename_i h1
    split
    · exact K.plain _ rfl (K.frame _ rfl (K.fire .demand true (fun hs => hpre hs (by simpa using h1) ‹_›) h))
    · exact onDemandPublisherWaitAgain_keeps K h

theorem closeCheck_keeps (h : R w) : R (closeCheck w) := by
  unfold closeCheck
  split
  · exact K.plain _ rfl h
  · exact h

theorem subErrCleanup_keeps (h : R w) : R (subErrCleanup w) := by
  unfold subErrCleanup
  split
  · exact h
  · exact setNotAvailable_keeps K h

theorem closeSource_keeps (s0 : State) (h : R w) : R (closeSource s0 w) := by
  unfold closeSource
  split
  · split
    · exact srcStop_keeps K h
    · exact h
  · exact K.plain _ rfl h
  · exact h

theorem onDemandStaticSourceScheduleClose_keeps (h : R w) : R (onDemandStaticSourceScheduleClose w) :=
  K.plain _ rfl (K.frame _ rfl h)

theorem onDemandPublisherScheduleClose_keeps (h : R w) : R (onDemandPublisherScheduleClose w) :=
  K.plain _ rfl (K.frame _ rfl h)

theorem doRemoveReader_keeps (r : Nat) (h : R w) : R (doRemoveReader r w) := by
  have h1 := K.frame (fun s => { s with readers := s.readers.filter (· != r) }) rfl h
  have either : ∀ {c : Prop} [Decidable c] {a b : W}, R a → R b → R (if c then a else b) := by
    intro c _ a b ha hb; split <;> assumption
  exact either (either (either (onDemandStaticSourceScheduleClose_keeps K h1) h1)
    (either (either (onDemandPublisherScheduleClose_keeps K h1) h1) h1)) h1

/-- `attach` keeps what its stages keep; answering the held requests (`consume`) is the one stage that is not plain -/
theorem attach_keeps {tag : PubReply → Out} {f : State → State} {sched : W → W} (ok : Bool)
    (htag : ∀ k, (tag k).plain = true) (hf : ∀ s, held (f s) = held s)
    (trade : ∀ w, R w → R (sched w)) (consume : ∀ w, R w → R (consumeOnHoldRequests w))
    (hpre : strict → w.s.conf.alwaysAvailable = false → w.s.hkAvail = false) (h : R w) :
    R (attach tag f sched ok w) := by
  refine attach_pres ?_ (fun _ => subErrCleanup_keeps K) (fun _ h => K.frame _ (hf _) (K.frame _ rfl h))
    (fun _ => setOnline_keeps K) trade consume (fun k _ => K.plain _ (htag k))
  split
  · exact h
  · exact setAvailable_keeps K (fun hs => hpre hs (by simpa using ‹¬ w.s.conf.alwaysAvailable = true›)) h

theorem pubAttach_keeps (p : Nat) (ok : Bool) (consume : ∀ w, R w → R (consumeOnHoldRequests w))
    (hpre : strict → w.s.conf.alwaysAvailable = false → w.s.hkAvail = false) (h : R w) : R (pubAttach p ok w) := by
  rw [pubAttach_eq]
  refine attach_keeps K ok (fun _ => rfl) (fun _ => rfl) (fun w h => ?_) consume hpre h
  split
  · exact onDemandPublisherScheduleClose_keeps K (K.plain _ rfl (K.frame _ rfl h))
  · exact h

theorem srcReady_keeps (ok : Bool) (consume : ∀ w, R w → R (consumeOnHoldRequests w))
    (hpre : strict → w.s.conf.alwaysAvailable = false → w.s.hkAvail = false) (h : R w) :
    R (doSourceStaticSetReady ok w) := by
  rw [srcReady_eq]
  refine attach_keeps K ok (fun _ => rfl) (fun _ => rfl) (fun w h => ?_) consume hpre h
  split
  · exact onDemandStaticSourceScheduleClose_keeps K (K.plain _ rfl (K.frame _ rfl h))
  · exact h

end

end MtxVerif.PathSM
