/-
C08 — helper lemmas for Props/C08: decimal text, the days-prefix regular expression, reading back the text of a
sign/magnitude pair, a concrete toy time library satisfying `DurLib`, rounding lemmas for byte sizes.
-/
import MtxVerif.Model.C08

namespace MtxVerif.C08


theorem digit_facts : ∀ k : Fin 10, isDigit (UInt8.ofNat (48 + k.val)) = true ∧
    (UInt8.ofNat (48 + k.val)).toNat - 48 = k.val := by decide

/-- `decFuel` prepends the decimal digits of `n` -/
theorem decFuel_spec : ∀ (f n : Nat) (acc : Bytes), n < 10 ^ f → 0 < f →
    ∃ ds : Bytes, decFuel f n acc = ds ++ acc ∧ ds ≠ [] ∧ (∀ c ∈ ds, isDigit c = true) ∧ digitsVal ds = n
  | 0, _, _, _, hf => absurd hf (by decide)
  | f + 1, n, acc, hn, _ => by
    obtain ⟨d1, d2⟩ := digit_facts ⟨n % 10, Nat.mod_lt _ (by decide)⟩
    unfold decFuel
    split
    · next h0 =>
      refine ⟨[UInt8.ofNat (48 + n % 10)], rfl, nofun, fun c hc => List.mem_singleton.mp hc ▸ d1, ?_⟩
      simp only [digitsVal, List.foldl, d2]; omega
    · next h0 =>
      have hn' : n / 10 < 10 ^ f := by rw [Nat.pow_succ] at hn; omega
      have hf1 : 0 < f := Nat.pos_of_ne_zero fun h => by subst h; omega
      obtain ⟨ds, e, -, hdig, hval⟩ := decFuel_spec f (n / 10) (UInt8.ofNat (48 + n % 10) :: acc) hn' hf1
      refine ⟨ds ++ [UInt8.ofNat (48 + n % 10)], by rw [e, List.append_assoc]; rfl, by simp, fun c hc => ?_, ?_⟩
      · rcases List.mem_append.mp hc with h | h
        · exact hdig c h
        · exact List.mem_singleton.mp h ▸ d1
      · unfold digitsVal at hval ⊢
        rw [List.foldl_append, hval]
        simp only [List.foldl, d2]; omega

/-- `dec n` (= `strconv.FormatInt`) is a non-empty string of digits (so it does not start with '-') with value `n` -/
theorem dec_spec (n : Nat) (h : n < 10 ^ 25) :
    (∃ d ds, dec n = d :: ds ∧ d ≠ 45) ∧ (∀ c ∈ dec n, isDigit c = true) ∧ digitsVal (dec n) = n := by
  obtain ⟨ds, e, hne, hdig, hval⟩ := decFuel_spec 25 n [] h (by decide)
  rw [List.append_nil] at e
  rw [dec, e]
  refine ⟨?_, hdig, hval⟩
  cases ds with
  | nil => exact absurd rfl hne
  | cons d ds => exact ⟨d, ds, rfl, fun hd => absurd (hdig d List.mem_cons_self) (by rw [hd]; decide)⟩

theorem takeWhile_digits (ds : Bytes) (c : UInt8) (r : Bytes) (hd : ∀ x ∈ ds, isDigit x = true) (hc : isDigit c = false) :
    (ds ++ c :: r).takeWhile isDigit = ds := by
  rw [List.takeWhile_append_of_pos hd, List.takeWhile_cons_of_neg (by rw [hc]; decide), List.append_nil]

/-- the regular expression `^(-?[0-9]+)d` on an optional sign, a number and one more byte `c` that is no digit: it
matches iff `c` is the letter `d` -/
theorem daysPrefix_dec (neg : Bool) (n : Nat) (h : n < 10 ^ 25) (c : UInt8) (hc : isDigit c = false) (rest : Bytes) :
    daysPrefix ((if neg then [45] else []) ++ dec n ++ c :: rest) =
      if c = 100 then some (neg, dec n, rest) else none := by
  obtain ⟨⟨d, ds, hd, hd45⟩, hdig, -⟩ := dec_spec n h
  have hr : (if neg then ((if neg then [45] else []) ++ dec n ++ c :: rest).drop 1
      else (if neg then [45] else []) ++ dec n ++ c :: rest) = dec n ++ c :: rest := by cases neg <;> rfl
  have hneg : (((if neg then [45] else []) ++ dec n ++ c :: rest).head? == some 45) = neg := by
    cases neg
    · rw [hd]; exact beq_eq_false_iff_ne.mpr fun h => hd45 (Option.some.inj h)
    · rfl
  unfold daysPrefix
  simp only [hneg, hr, takeWhile_digits (dec n) c rest hdig hc, List.drop_left]
  rw [hd, List.isEmpty_cons, if_neg Bool.false_ne_true, ← hd]
  split
  · next heq => cases heq; rfl
  · next hne => rw [if_neg fun (h : c = 100) => hne rest (h ▸ rfl)]

/-- what `durationOld_rt_partial` assumes about `time.Duration.String` / `time.ParseDuration` for sub-day values
(checked on samples of the real library by the `durlib` ops) -/
structure DurLib (fmt : Int → Bytes) (parse : Bytes → Option Int) : Prop where
  inv : ∀ x, 0 < x → x < day → parse (fmt x) = some x
  invNeg : ∀ x, 0 < x → x < day → parse (45 :: fmt x) = some (-x)
  noDays : ∀ x, 0 < x → x < day → daysPrefix (fmt x) = none
  noDaysNeg : ∀ x, 0 < x → x < day → daysPrefix (45 :: fmt x) = none
  nonEmpty : ∀ x, 0 < x → x < day → fmt x ≠ []

theorem wrap64_id {x : Int} (h1 : minI64 ≤ x) (h2 : x ≤ maxI64) : wrap64 x = x := by
  unfold wrap64 minI64 maxI64 two63 at *; omega

/-- `strconv.ParseInt` on our own digits does not clamp -/
theorem parseIntClamp_dec (neg : Bool) (n : Nat) (h : (n : Int) ≤ maxI64) :
    parseIntClamp neg (dec n) = if neg then -(n : Int) else n := by
  unfold maxI64 two63 at h
  unfold parseIntClamp minI64 maxI64 two63
  simp only [(dec_spec n (by omega)).2.2]
  cases neg <;> simp only [Bool.false_eq_true, if_false, if_true] <;> rw [if_neg (by omega)]

/-- `splitDays` on `[-]<D>d<rest>` gives back the sign, the days and the rest -/
theorem splitDays_dec (sign : Bool) (D : Nat) (hD : 0 < D) (hDle : (D : Int) ≤ maxI64) (rest : Bytes) :
    splitDays ((if sign then [45] else []) ++ dec D ++ 100 :: rest) = (sign, (D : Int), rest) := by
  have h63 : maxI64 = 9223372036854775807 := rfl
  unfold splitDays
  rw [daysPrefix_dec sign D (by omega) 100 (by decide), if_pos rfl]
  simp only [parseIntClamp_dec sign D hDle]
  cases sign <;> simp only [Bool.false_eq_true, if_false, if_true]
  · rw [if_neg (by omega)]
  · rw [if_pos (by omega), Int.neg_neg, wrap64_id (by unfold minI64 two63; omega) hDle]

/-- text of a duration with magnitude `m` as the (fixed) marshaller writes it -/
def textOf (fmt : Int → Bytes) (sign : Bool) (m : Int) : Bytes :=
  (if sign then [45] else []) ++ (if m / day > 0 then dec (m / day).toNat ++ [100] else []) ++
  (if m % day ≠ 0 then fmt (m % day) else [])

/-- core: reading back the text of sign/magnitude -/
theorem unmarshal_textOf {fmt : Int → Bytes} {parse : Bytes → Option Int} (L : DurLib fmt parse)
    (sign : Bool) (m : Int) (h0 : 0 ≤ m) (hm : m ≤ two63) (hs : sign = true → 0 < m) :
    unmarshalDur parse (textOf fmt sign m) = some (wrap64 (if sign then -m else m)) := by
  have hday : day = 86400000000000 := rfl
  unfold two63 at hm
  have hN0 : 0 ≤ m % day := Int.emod_nonneg m (by decide)
  have hN1 : m % day < day := Int.emod_lt_of_pos m (by decide)
  have hD0 : 0 ≤ m / day := Int.ediv_nonneg h0 (by decide)
  have hDlt : m / day < 106752 := Int.ediv_lt_of_lt_mul (by decide) (by rw [hday]; omega)
  have hdm : m % day + m / day * day = m := Int.emod_add_ediv_mul m day
  unfold textOf
  by_cases hD : m / day > 0
  · -- days prefix present: the split gives back sign, days and the sub-day text
    have hDn : ((m / day).toNat : Int) = m / day := Int.toNat_of_nonneg hD0
    have htail : (if (if m % day ≠ 0 then fmt (m % day) else []).isEmpty then some 0
        else parse (if m % day ≠ 0 then fmt (m % day) else [])) = some (m % day) := by
      by_cases hN : m % day = 0
      · rw [if_neg (Decidable.not_not.mpr hN), hN]; rfl
      · have hpos : 0 < m % day := by omega
        rw [if_pos hN, if_neg (by simpa using L.nonEmpty _ hpos hN1)]
        exact L.inv _ hpos hN1
    rw [if_pos hD, List.append_assoc, List.append_assoc, List.singleton_append, ← List.append_assoc]
    unfold unmarshalDur
    simp only [splitDays_dec sign (m / day).toNat (by omega) (by unfold maxI64 two63; omega), hDn, htail, hdm]
    -- at m = 2^63 (written for MinInt64) the sum wraps to MinInt64, whose negation wraps to MinInt64 again
    cases sign
    · rfl
    · rcases Int.lt_or_eq_of_le hm with h | rfl
      · rw [wrap64_id (x := m) (by unfold minI64 two63; omega) (by unfold maxI64 two63; omega), if_pos rfl, if_pos rfl]
      · decide
  · -- no days prefix: the magnitude is below one day
    have hmN : m % day = m := by have : m / day = 0 := by omega
                                 rw [this] at hdm; omega
    rw [if_neg hD, List.append_nil, hmN]
    by_cases hN : m = 0
    · cases sign
      · subst hN; rfl
      · exact absurd (hs rfl) (by omega)
    · have hpos : 0 < m := by omega
      rw [hmN] at hN1
      rw [if_pos hN]
      unfold unmarshalDur splitDays
      cases sign
      · simp only [Bool.false_eq_true, if_false, List.nil_append, L.noDays _ hpos hN1, L.inv _ hpos hN1,
          List.isEmpty_eq_false_iff.mpr (L.nonEmpty _ hpos hN1), Int.zero_mul, Int.add_zero]
      · simp only [if_true, List.singleton_append, L.noDaysNeg _ hpos hN1, L.invNeg _ hpos hN1, List.isEmpty_cons,
          Bool.false_eq_true, if_false, Int.zero_mul, Int.add_zero]

/-! ### the full statement is false at MinInt64 — shown with a concrete library satisfying `DurLib` -/

/-- a toy `Duration.String`: `[-]<nanoseconds>ns` -/
def fmtT (x : Int) : Bytes := (if x < 0 then [45] else []) ++ dec x.natAbs ++ [110, 115]

def parseU (s : Bytes) : Option Int :=
  let ds := s.takeWhile isDigit
  if ds.isEmpty then none else if s.drop ds.length == [110, 115] then some (digitsVal ds) else none

/-- the matching toy `ParseDuration` -/
def parseT (s : Bytes) : Option Int :=
  match s with
  | 45 :: r => (parseU r).map (fun v => -v)
  | _ => parseU s

theorem parseU_fmt (n : Nat) (h : n < 10 ^ 25) : parseU (dec n ++ [110, 115]) = some (n : Int) := by
  obtain ⟨⟨d, ds, hd, -⟩, hdig, hval⟩ := dec_spec n h
  unfold parseU
  simp only [takeWhile_digits (dec n) 110 [115] hdig (by decide), List.drop_left, BEq.rfl, if_true, hval]
  rw [hd]; rfl

theorem toyLib : DurLib fmtT parseT := by
  have key : ∀ x : Int, 0 < x → x < day → x.natAbs < 10 ^ 25 ∧ (x.natAbs : Int) = x ∧ fmtT x = dec x.natAbs ++ [110, 115] := by
    intro x h0 h1
    have hd : day = 86400000000000 := rfl
    exact ⟨by omega, by omega, by rw [fmtT, if_neg (by omega)]; rfl⟩
  refine ⟨fun x h0 h1 => ?_, fun x h0 h1 => ?_, fun x h0 h1 => ?_, fun x h0 h1 => ?_, fun x h0 h1 => ?_⟩ <;>
    obtain ⟨hf, hx, e⟩ := key x h0 h1 <;> rw [e]
  · obtain ⟨⟨d, ds, hd, hd45⟩, -⟩ := dec_spec _ hf
    have hp := parseU_fmt _ hf
    rw [hx] at hp
    rw [← hp, hd]
    unfold parseT
    split
    · next heq => exact absurd (List.cons.inj heq).1 hd45
    · rfl
  · show (parseU (dec x.natAbs ++ [110, 115])).map (fun v => -v) = some (-x)
    rw [parseU_fmt _ hf, hx]; rfl
  · exact daysPrefix_dec false _ hf 110 (by decide) [115]
  · exact daysPrefix_dec true _ hf 110 (by decide) [115]
  · exact List.append_ne_nil_of_right_ne_nil _ (by decide)

theorem rhe_cases (n u : Nat) :
    (rhe n u = n / u ∧ 2 * (n % u) ≤ u) ∨ (rhe n u = n / u + 1 ∧ u ≤ 2 * (n % u)) := by
  unfold rhe
  dsimp only
  by_cases h1 : 2 * (n % u) > u
  · rw [if_pos h1]; exact .inr ⟨rfl, Nat.le_of_lt h1⟩
  · rw [if_neg h1]
    by_cases h2 : 2 * (n % u) = u
    · rw [if_pos h2]
      by_cases h3 : n / u % 2 = 1
      · rw [if_pos h3]; exact .inr ⟨rfl, Nat.le_of_eq h2.symm⟩
      · rw [if_neg h3]; exact .inl ⟨rfl, Nat.le_of_eq h2⟩
    · rw [if_neg h2]; exact .inl ⟨rfl, Nat.le_of_not_gt h1⟩

theorem rhe_bound (n u : Nat) (hu : 0 < u) :
    2 * (rhe n u * u) ≤ 2 * n + u ∧ 2 * n ≤ 2 * (rhe n u * u) + u := by
  have hdm := Nat.div_add_mod' n u
  have hr := Nat.mod_lt n hu
  rcases rhe_cases n u with ⟨e, h⟩ | ⟨e, h⟩ <;> rw [e]
  · omega
  · rw [Nat.add_mul, Nat.one_mul]; omega
/-- rounding ⌊q·u/10⌋·10/u to the nearest integer gives back q when the unit is large (u > 20): the value is less
than half a unit away from q units -/
theorem rhe_of_floor (u q s : Nat) (hu : 20 < u) (hs : s = q * u / 10) : rhe (10 * s) u = q := by
  obtain ⟨h1, h2⟩ := rhe_bound (10 * s) u (by omega)
  have hdm := Nat.div_add_mod (q * u) 10
  have hρ := Nat.mod_lt (q * u) (by decide : 0 < 10)
  rw [← hs] at hdm
  have hle : rhe (10 * s) u * u < (q + 1) * u := by rw [Nat.add_mul]; omega
  have hge : q * u < (rhe (10 * s) u + 1) * u := by rw [Nat.add_mul]; omega
  have := Nat.lt_of_mul_lt_mul_right hle
  have := Nat.lt_of_mul_lt_mul_right hge
  omega

theorem unitIdx_small {s : Nat} (h : s < 1024) : unitIdx s = 0 := by
  have hk : ∀ k, ¬ s ≥ 1024 ^ (k + 1) := fun k hc =>
    Nat.lt_irrefl _ (Nat.lt_of_lt_of_le h (Nat.le_trans (Nat.le_self_pow (Nat.succ_ne_zero k) 1024) hc))
  unfold unitIdx
  rw [if_neg (hk 5), if_neg (hk 4), if_neg (hk 3), if_neg (hk 2), if_neg (hk 1), if_neg (hk 0)]

theorem one_le_ite {c : Prop} [Decidable c] {a b : Nat} (ha : 1 ≤ a) (hb : 1 ≤ b) : 1 ≤ if c then a else b := by
  split <;> assumption

theorem unitIdx_ge {s : Nat} (h : 1024 ≤ s) : 1 ≤ unitIdx s := by
  unfold unitIdx
  iterate 5 refine one_le_ite (by decide) ?_
  rw [if_pos h]; decide

theorem exactIdxFuel_dvd : ∀ (f s k : Nat), ∃ j, exactIdxFuel f s k = k + j ∧ 1024 ^ j ∣ s
  | 0, s, k => ⟨0, rfl, by simp⟩
  | f + 1, s, k => by
    unfold exactIdxFuel
    split
    · next hc =>
      obtain ⟨j, hj, hd⟩ := exactIdxFuel_dvd f (s / 1024) (k + 1)
      refine ⟨j + 1, by rw [hj]; omega, ?_⟩
      have : s = 1024 * (s / 1024) := by have := Nat.div_add_mod s 1024; omega
      rw [this, Nat.pow_succ, Nat.mul_comm]
      exact Nat.mul_dvd_mul_left 1024 hd
    · exact ⟨0, rfl, by simp⟩


end MtxVerif.C08
