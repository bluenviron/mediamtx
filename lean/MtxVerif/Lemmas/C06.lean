/-
C06 — helper lemmas: `splitOn`, the `..`-scanner, the shape of a valid path name.
-/
import MtxVerif.Model.C06

namespace MtxVerif.C06

theorem splitOn_nil (sep : UInt8) : splitOn sep [] = [[]] := rfl

theorem splitOn_cons_sep (sep : UInt8) (r : Bytes) : splitOn sep (sep :: r) = [] :: splitOn sep r := by
  rw [splitOn, if_pos rfl]

theorem splitOn_cons_ne {sep c : UInt8} (hc : c ≠ sep) {r hd : Bytes} {tl : List Bytes}
    (h : splitOn sep r = hd :: tl) : splitOn sep (c :: r) = (c :: hd) :: tl := by
  rw [splitOn, if_neg hc, h]

theorem splitOn_eq_cons (sep : UInt8) (s : Bytes) : ∃ hd tl, splitOn sep s = hd :: tl := by
  cases s with
  | nil => exact ⟨_, _, rfl⟩
  | cons c r =>
    rw [splitOn]
    split
    · exact ⟨_, _, rfl⟩
    · split <;> exact ⟨_, _, rfl⟩

theorem splitOn_prefix {sep : UInt8} {p s hd : Bytes} {tl : List Bytes} (hp : sep ∉ p)
    (hs : splitOn sep s = hd :: tl) : splitOn sep (p ++ s) = (p ++ hd) :: tl := by
  induction p with
  | nil => exact hs
  | cons c r ih =>
    rw [List.mem_cons, not_or] at hp
    exact splitOn_cons_ne (Ne.symm hp.1) (ih hp.2)

theorem splitOn_of_not_mem {sep : UInt8} {p : Bytes} (hp : sep ∉ p) : splitOn sep p = [p] := by
  simpa using splitOn_prefix hp (splitOn_nil sep)

theorem splitOn_append_sep (sep : UInt8) (a b : Bytes) :
    splitOn sep (a ++ sep :: b) = splitOn sep a ++ splitOn sep b := by
  induction a with
  | nil => rw [List.nil_append, splitOn_cons_sep]; rfl
  | cons c r ih =>
    rw [List.cons_append]
    by_cases hc : c = sep
    · subst hc
      rw [splitOn_cons_sep, splitOn_cons_sep, ih]; rfl
    · obtain ⟨hd, tl, hs⟩ := splitOn_eq_cons sep r
      rw [hs] at ih
      rw [splitOn_cons_ne hc hs, splitOn_cons_ne hc ih]; rfl

theorem splitOn_head_nil {sep : UInt8} {s : Bytes} {tl : List Bytes} (h : splitOn sep s = [] :: tl) :
    s = [] ∨ s.head? = some sep := by
  cases s with
  | nil => exact .inl rfl
  | cons c r =>
    by_cases hc : c = sep
    · exact .inr (congrArg some hc)
    · obtain ⟨hd', tl', hs⟩ := splitOn_eq_cons sep r
      rw [splitOn_cons_ne hc hs] at h
      cases h

theorem splitOn_getLast?_nil {sep : UInt8} {s : Bytes} (h : (splitOn sep s).getLast? = some []) :
    s = [] ∨ s.getLast? = some sep := by
  by_cases hm : sep ∈ s
  · -- cut `s` at its last separator: what follows is the last component
    obtain ⟨as, bs, hr, has⟩ := List.eq_append_cons_of_mem (List.mem_reverse.mpr hm)
    obtain rfl : s = bs.reverse ++ sep :: as.reverse := by
      rw [← List.reverse_reverse s, hr, List.reverse_append, List.reverse_cons, List.append_assoc]; rfl
    rw [splitOn_append_sep, splitOn_of_not_mem (mt List.mem_reverse.mp has), List.getLast?_concat] at h
    rw [Option.some.inj h]
    exact .inr List.getLast?_concat
  · rw [splitOn_of_not_mem hm] at h
    exact .inl (Option.some.inj h)

/-- state the scanner is in after reading the slash-free text `p` from the start of a component. -/
def cls (p : Bytes) : St :=
  if p = [] then .s0 else if p = dot then .s1 else if p = dotdot then .s2 else .sx

theorem cls_eq_sx {p : Bytes} (h0 : p ≠ []) (h1 : p ≠ dot) (h2 : p ≠ dotdot) : cls p = .sx := by
  rw [cls, if_neg h0, if_neg h1, if_neg h2]

theorem cls_cases (p : Bytes) :
    p = [] ∨ p = dot ∨ p = dotdot ∨ p ≠ [] ∧ p ≠ dot ∧ p ≠ dotdot ∧ cls p = .sx := by
  by_cases h0 : p = []; · exact .inl h0
  by_cases h1 : p = dot; · exact .inr (.inl h1)
  by_cases h2 : p = dotdot; · exact .inr (.inr (.inl h2))
  exact .inr (.inr (.inr ⟨h0, h1, h2, cls_eq_sx h0 h1 h2⟩))

theorem cls_ne_found (p : Bytes) : cls p ≠ .found := by
  rcases cls_cases p with rfl | rfl | rfl | ⟨_, _, _, h⟩
  · decide
  · decide
  · decide
  · rw [h]; decide

theorem cls_append (p : Bytes) {y : Bytes} (h0 : y ≠ []) (h1 : y ≠ dot) (h2 : y ≠ dotdot) :
    cls (p ++ y) = .sx := by
  have key : ∀ x : Bytes, x ++ y ≠ dotdot := by
    intro x e
    match x, e with
    | [], e => exact h2 e
    | [_], e => exact h1 (List.cons.inj e).2
    | _ :: _ :: x, e => exact h0 (List.append_eq_nil_iff.mp (List.cons.inj (List.cons.inj e).2).2).2
  exact cls_eq_sx (fun e => h0 (List.append_eq_nil_iff.mp e).2)
    (fun e => key (46 :: p) (congrArg (46 :: ·) e)) (key p)

theorem scan_cons (q : St) (c : UInt8) (s : Bytes) : scan q (c :: s) = scan (step q c) s := rfl

theorem scan_append (q : St) (a b : Bytes) : scan q (a ++ b) = scan (scan q a) b :=
  List.foldl_append

theorem scan_found (s : Bytes) : scan .found s = .found := by
  induction s with
  | nil => rfl
  | cons c r ih => exact ih

theorem step_plain {q : St} (hq : q ≠ .found) {c : UInt8} (h7 : c ≠ 47) (h6 : c ≠ 46) : step q c = .sx := by
  cases q <;> simp [step, h7, h6] at hq ⊢

theorem step_cls_slash (p : Bytes) : step (cls p) 47 = if p = dotdot then .found else cls [] := by
  rcases cls_cases p with rfl | rfl | rfl | ⟨_, _, h2, h⟩
  · rfl
  · rfl
  · rfl
  · rw [h, if_neg h2]; rfl

theorem step_cls (p : Bytes) {c : UInt8} (hc : c ≠ 47) : step (cls p) c = cls (p ++ [c]) := by
  by_cases hd : c = 46
  · subst hd
    rcases cls_cases p with rfl | rfl | rfl | ⟨h0, h1, _, h⟩
    · rfl
    · rfl
    · rfl
    · rw [h, cls_eq_sx (List.append_ne_nil_of_right_ne_nil _ (List.cons_ne_nil _ _))
        (fun e => h0 (List.append_singleton_inj (bs := []).mp e).1)
        (fun e => h1 (List.append_singleton_inj (bs := dot).mp e).1)]
      rfl
  · rw [step_plain (cls_ne_found p) hc hd]
    exact (cls_append p (List.cons_ne_nil _ _) (fun e => hd (List.cons.inj e).1)
      (fun e => List.cons_ne_nil _ _ (List.cons.inj e).2.symm)).symm

theorem finish_cls (p : Bytes) : finish (cls p) = true ↔ p = dotdot := by
  rcases cls_cases p with rfl | rfl | rfl | ⟨_, _, h2, h⟩
  · decide
  · decide
  · decide
  · rw [h]; exact ⟨fun e => absurd e (by decide), fun e => absurd e h2⟩

/-- state of the scanner after the finished components `c :: ds` minus the last, and the last unfinished. -/
def afterComps (c : Bytes) : List Bytes → St
  | [] => cls c
  | d :: ds => if c = dotdot then .found else afterComps d ds

theorem scan_cls (s : Bytes) : ∀ {p c : Bytes} {ds : List Bytes}, 47 ∉ p → splitOn 47 (p ++ s) = c :: ds →
    scan (cls p) s = afterComps c ds := by
  induction s with
  | nil =>
    intro p c ds hp h
    rw [List.append_nil, splitOn_of_not_mem hp] at h
    cases h; rfl
  | cons x r ih =>
    intro p c ds hp h
    rw [scan_cons]
    by_cases hx : x = 47
    · subst hx
      obtain ⟨d, ds', hr⟩ := splitOn_eq_cons 47 r
      rw [splitOn_append_sep, splitOn_of_not_mem hp, hr] at h
      cases h
      rw [step_cls_slash]
      show _ = if p = dotdot then St.found else afterComps d ds'
      split
      · exact scan_found r
      · exact ih (List.not_mem_nil) hr
    · rw [step_cls p hx]
      refine ih (p := p ++ [x]) ?_ (by rwa [List.append_assoc])
      simp [hp, Ne.symm hx]

theorem finish_afterComps (c : Bytes) (ds : List Bytes) :
    finish (afterComps c ds) = true ↔ dotdot ∈ c :: ds := by
  induction ds generalizing c with
  | nil => rw [afterComps, finish_cls, List.mem_singleton, eq_comm]
  | cons d ds ih =>
    rw [afterComps, List.mem_cons]
    by_cases h : c = dotdot
    · simp [h, finish]
    · rw [if_neg h, ih]; simp [Ne.symm h]

/-- the scanner decides "some component is `..`". -/
theorem hasDotDot_iff (s : Bytes) : hasDotDot s = true ↔ dotdot ∈ splitOn 47 s := by
  obtain ⟨c, ds, h⟩ := splitOn_eq_cons 47 s
  rw [hasDotDot, h, ← finish_afterComps, ← scan_cls (p := []) s List.not_mem_nil h]
  exact Iff.rfl

theorem afterComps_eq_sx {c : Bytes} {ds : List Bytes} (h : ∀ x ∈ c :: ds, x ≠ dotdot)
    (hl : ∀ l, (c :: ds).getLast? = some l → cls l = .sx) : afterComps c ds = .sx := by
  induction ds generalizing c with
  | nil => exact hl c rfl
  | cons d ds ih =>
    rw [afterComps, if_neg (h c List.mem_cons_self)]
    exact ih (fun x hx => h x (List.mem_cons_of_mem _ hx)) (fun l e => hl l (by rwa [List.getLast?_cons_cons]))

theorem exists_cls {q : St} (hq : q ≠ .found) : ∃ p, 47 ∉ p ∧ cls p = q := by
  cases q with
  | s0 => exact ⟨[], by decide⟩
  | s1 => exact ⟨dot, by decide⟩
  | s2 => exact ⟨dotdot, by decide⟩
  | sx => exact ⟨[120], by decide⟩
  | found => exact absurd rfl hq

theorem ite_some_eq_none {α : Type} {c : Prop} [Decidable c] {a : α} {x : Option α} :
    (if c then some a else x) = none ↔ ¬c ∧ x = none := by
  split <;> simp [*]

theorem valid_facts (n : Bytes) : isValidPathName n = none ↔
    n ≠ [] ∧ n.head? ≠ some 47 ∧ n.getLast? ≠ some 47 ∧ n.all okChar = true ∧
      dot ∉ splitOn 47 n ∧ dotdot ∉ splitOn 47 n := by
  cases n with
  | nil => simp [isValidPathName]
  | cons c r =>
    simp [isValidPathName, ite_some_eq_none, and_or_left, exists_or, -List.all_cons]

/-- **scanning a valid path name** from any live state ends in `sx`: the name contributes no `..`
component, whatever precedes it in the same component, and leaves a non-dot component open. -/
theorem scan_valid_name (n : Bytes) (hv : isValidPathName n = none) (q : St) (hq : q ≠ .found) :
    scan q n = .sx := by
  obtain ⟨hne, hlead, htrail, -, hdot, hdotdot⟩ := (valid_facts n).mp hv
  obtain ⟨p, hp, rfl⟩ := exists_cls hq
  obtain ⟨hd, tl, hs⟩ := splitOn_eq_cons 47 n
  rw [scan_cls n hp (splitOn_prefix hp hs)]
  rw [hs] at hdot hdotdot
  -- the first component is not empty: with `p` in front of it, it is still neither `.` nor `..`
  have hhd : cls (p ++ hd) = .sx := by
    refine cls_append p (fun e => ?_) (fun e => hdot (e ▸ List.mem_cons_self))
      (fun e => hdotdot (e ▸ List.mem_cons_self))
    exact (splitOn_head_nil (e ▸ hs)).elim hne hlead
  apply afterComps_eq_sx
  · intro x hx e
    rcases List.mem_cons.mp hx with rfl | hx
    · rw [e] at hhd; cases hhd
    · exact hdotdot (e ▸ List.mem_cons_of_mem _ hx)
  · intro l hl
    cases tl with
    | nil => cases hl; exact hhd
    | cons t ts =>
      -- nor is the last one empty
      rw [List.getLast?_cons_cons, ← List.getLast?_cons_cons (a := hd)] at hl
      have hm := List.mem_of_getLast? hl
      refine cls_eq_sx (fun e => ?_) (fun e => hdot (e ▸ hm)) (fun e => hdotdot (e ▸ hm))
      rw [← hs, e] at hl
      exact (splitOn_getLast?_nil hl).elim hne htrail

end MtxVerif.C06
