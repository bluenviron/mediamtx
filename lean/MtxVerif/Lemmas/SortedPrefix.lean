/-
Filtering a sorted list by a downward-closed condition (used for the `end` filter of FindSegments, C29, and for the
flush of the MoQ reorderer, C33).
-/

namespace MtxVerif

/-- on a list whose later elements are `R`-above the earlier ones, a condition that passes from an element to
everything `R`-below it selects a prefix -/
theorem filter_split {α : Type} {R : α → α → Prop} (p : α → Bool) : ∀ {l : List α}, l.Pairwise R →
    (∀ a b, R a b → p b = true → p a = true) →
    l.filter p ++ l.filter (fun x => !p x) = l
  | [], _, _ => rfl
  | x :: xs, h, hp => by
    obtain ⟨hx, hxs⟩ := List.pairwise_cons.mp h
    cases hpx : p x
    · have hall : ∀ y ∈ x :: xs, p y = false := fun y hy => by
        rcases List.mem_cons.mp hy with rfl | hy
        · exact hpx
        · exact Bool.eq_false_iff.mpr fun e => by rw [hp x y (hx y hy) e] at hpx; cases hpx
      rw [List.filter_eq_nil_iff.mpr fun y hy => by rw [hall y hy]; exact Bool.false_ne_true,
        List.filter_eq_self.mpr fun y hy => by rw [hall y hy]; rfl]
      rfl
    · rw [List.filter_cons_of_pos hpx, List.filter_cons_of_neg (by rw [hpx]; exact Bool.false_ne_true), List.cons_append,
        filter_split p hxs hp]

end MtxVerif
