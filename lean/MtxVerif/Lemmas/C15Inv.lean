/-
C15 — invariants of the pathManager model; what one reload does to a live path; `InvA` along reloads,
deliveries and client events.  A client event is a short sequence of elementary moves (`Moves`), so each
invariant is shown once per move.
-/
import MtxVerif.Lemmas.C15Basic

namespace MtxVerif.C15

/-- pathManager side: the path's name resolves, to the configuration it is filed under -/
def ResOK (orc : Oracle) (confs : List Conf) (p : LivePath) : Prop :=
  ∃ c m, resolve orc confs p.name = some (c, m) ∧ c.name = p.confName

/-- path side: once the mailbox is drained in order the path runs with the configuration it is filed under -/
def EffOK (confs : List Conf) (p : LivePath) : Prop := lookup confs p.confName = some p.effective

/-- the capture groups are the ones resolution selects -/
def GrpOK (orc : Oracle) (confs : List Conf) (p : LivePath) : Prop :=
  ∃ c m, resolve orc confs p.name = some (c, m) ∧ p.groups = groupsOf m

/-- holds for every variant and every delivery order -/
structure InvA (orc : Oracle) (pm : PM) : Prop where
  wf : WFconfs pm.confs
  names : (pm.paths.map (·.name)).Nodup
  incLt : ∀ p ∈ pm.paths, p.inc < pm.nextInc
  incs : (pm.paths.map (·.inc)).Nodup
  res : ∀ p ∈ pm.paths, ResOK orc pm.confs p
  noPanic : pm.panicked = false

/-- needs in-order delivery (or the `fixOrder` variant) -/
structure InvB (pm : PM) : Prop where
  eff : ∀ p ∈ pm.paths, EffOK pm.confs p
  stat : ∀ c ∈ pm.confs, c.regex = false → ∃ p ∈ pm.paths, p.name = c.name

def InvG (orc : Oracle) (pm : PM) : Prop := ∀ p ∈ pm.paths, GrpOK orc pm.confs p

def Fifo : Ev → Prop
  | .deliver _ i => i = 0
  | _ => True

/-- no path migrates to a configuration whose match gives other capture groups (F-C15b side condition) -/
def NoStale (orc : Oracle) (pm : PM) : Ev → Prop
  | .reload new => ∀ p ∈ pm.paths, ∀ nc m, resolve orc new p.name = some (nc, m) →
      nc.name ≠ p.confName → groupsOf m = p.groups
  | _ => True

/-- reloads install validated configuration sets; client requests reach a path whose mailbox is empty
(the harness waits for quiescence; a request racing with an undelivered reload is not covered) -/
def okEv (pm : PM) : Ev → Prop
  | .reload new => WFconfs new
  | .deliver _ _ => True
  | .pub n => ∀ p ∈ pm.paths, p.name = n → p.mailbox = []
  | .unpub n => ∀ p ∈ pm.paths, p.name = n → p.mailbox = []
  | .read n _ => ∀ p ∈ pm.paths, p.name = n → p.mailbox = []
  | .unread id => ∀ p ∈ pm.paths, p.readers.contains id = true → p.mailbox = []

variable {V : Variant} {orc : Oracle} {confs old new : List Conf} {pm pm' : PM} {p q : LivePath} {n : Bytes}
  {f : LivePath → LivePath}

theorem ResOK.congr (h : ResOK orc confs p) (hn : q.name = p.name) (hc : q.confName = p.confName) :
    ResOK orc confs q := by
  unfold ResOK; rw [hn, hc]; exact h

theorem EffOK.congr (h : EffOK confs p) (hc : q.confName = p.confName) (he : q.effective = p.effective) :
    EffOK confs q := by
  unfold EffOK; rw [hc, he]; exact h

theorem GrpOK.congr (h : GrpOK orc confs p) (hn : q.name = p.name) (hg : q.groups = p.groups) :
    GrpOK orc confs q := by
  unfold GrpOK; rw [hn, hg]; exact h

theorem mkPath_ok {c : Conf} {m : Option (List Bytes)} (hr : resolve orc confs n = some (c, m)) (i : Nat) :
    ResOK orc confs (mkPath c n m i) ∧ EffOK confs (mkPath c n m i) ∧ GrpOK orc confs (mkPath c n m i) :=
  ⟨⟨c, m, hr, rfl⟩, (resolve_some hr).2.1, ⟨c, m, hr, rfl⟩⟩

theorem applyDec_some {d : Dec} (h : applyDec p d = some q) :
    q.name = p.name ∧ q.inc = p.inc ∧ q.pub = p.pub ∧ q.readers = p.readers := by
  cases d with
  | close => cases h
  | panic => cases h
  | keep => cases h; exact ⟨rfl, rfl, rfl, rfl⟩
  | hot nc => cases h; exact ⟨rfl, rfl, rfl, rfl⟩

/-- a path filed under `oc` that survives a reload is untouched (`oc` is unchanged) or has been filed under, and
sent, the configuration its name now resolves to -/
theorem kept_spec {oc : Conf} (hn : (old.map (·.name)).Nodup) (hl : lookup old p.confName = some oc)
    (h : applyDec p (decidePath V orc old new p) = some q) :
    ∃ nc m, resolve orc new p.name = some (nc, m) ∧
      ((q = p ∧ nc = oc) ∨
       (q = { p with confName := nc.name, mailbox := p.mailbox ++ [nc] } ∧
          (nc.name ≠ p.confName → V.fixGroups = true → groupsOf m = p.groups))) := by
  cases hr : resolve orc new p.name with
  | none => rw [decidePath_none hr] at h; cases h
  | some cm =>
    obtain ⟨nc, m⟩ := cm
    refine ⟨nc, m, rfl, ?_⟩
    rw [decidePath_some hn hr hl] at h
    by_cases hname : nc.name = p.confName
    · rw [if_pos hname] at h
      by_cases hoc : nc = oc
      · rw [if_pos hoc] at h
        exact Or.inl ⟨(Option.some.inj h).symm, hoc⟩
      · rw [if_neg hoc] at h
        cases hc : canUpdate oc nc with
        | false => rw [hc] at h; cases h
        | true =>
          rw [hc] at h
          exact Or.inr ⟨(Option.some.inj h).symm, fun hne => absurd hname hne⟩
    · rw [if_neg hname] at h
      cases hc : (canUpdate oc nc && (!V.fixGroups || groupsOf m == p.groups)) with
      | false => rw [hc] at h; cases h
      | true =>
        rw [hc] at h
        refine Or.inr ⟨(Option.some.inj h).symm, fun _ hV => ?_⟩
        simp only [hV, Bool.and_eq_true, Bool.not_true, Bool.false_or, beq_iff_eq] at hc
        exact hc.2

theorem ResOK.lookup (h : ResOK orc confs p) : ∃ c, lookup confs p.confName = some c := by
  obtain ⟨c, m, hr, hcn⟩ := h
  exact ⟨c, hcn ▸ (resolve_some hr).2.1⟩

/-- its name still resolves, to the configuration it is now filed under -/
theorem kept_res (hn : (old.map (·.name)).Nodup) (hres : ResOK orc old p)
    (h : applyDec p (decidePath V orc old new p) = some q) : ResOK orc new q := by
  obtain ⟨oc, hl⟩ := hres.lookup
  obtain ⟨nc, m, hr, ⟨rfl, rfl⟩ | ⟨rfl, _⟩⟩ := kept_spec hn hl h
  · exact ⟨nc, m, hr, (lookup_some hl).2⟩
  · exact ⟨nc, m, hr, rfl⟩

/-- … and, if it ran (or was about to run) with the configuration it was filed under, it still does -/
theorem kept_eff (hn : (old.map (·.name)).Nodup) (heff : EffOK old p)
    (h : applyDec p (decidePath V orc old new p) = some q) : EffOK new q := by
  obtain ⟨nc, m, hr, ⟨rfl, rfl⟩ | ⟨rfl, _⟩⟩ := kept_spec hn heff h
  · have hnew := (resolve_some hr).2.1
    rw [(lookup_some heff).2] at hnew
    exact hnew
  · show lookup new nc.name = some (((p.mailbox ++ [nc]).getLast?).getD p.conf)
    rw [List.getLast?_concat]
    exact (resolve_some hr).2.1

/-- … and keeps the right capture groups, unless it migrated to another configuration with other groups -/
theorem kept_grp (wfo : WFconfs old) (wfn : WFconfs new) (hres : ResOK orc old p) (hg : GrpOK orc old p)
    (hside : V.fixGroups = true ∨ ∀ nc m, resolve orc new p.name = some (nc, m) → nc.name ≠ p.confName →
      groupsOf m = p.groups)
    (h : applyDec p (decidePath V orc old new p) = some q) : GrpOK orc new q := by
  obtain ⟨oc, om, hor, hocn⟩ := hres
  obtain ⟨_, _, hor', hog⟩ := hg
  obtain ⟨rfl, rfl⟩ := Prod.mk.inj (Option.some.inj (hor.symm.trans hor'))
  obtain ⟨nc, m, hr, hq⟩ := kept_spec wfo.nodup (hocn ▸ (resolve_some hor).2.1) h
  have hgroups : p.groups = groupsOf m := by
    by_cases hname : nc.name = p.confName
    · -- same configuration name before and after: the matches depend on the two names only
      rw [hog, resolve_matches wfn hr, resolve_matches wfo hor, hname, hocn]
    · rcases hq with ⟨_, rfl⟩ | ⟨_, hfix⟩
      · exact absurd hocn hname
      · rcases hside with hV | hs
        · exact (hfix hname hV).symm
        · exact (hs nc m hr hname).symm
  rcases hq with ⟨rfl, _⟩ | ⟨rfl, _⟩
  · exact ⟨nc, m, hr, hgroups⟩
  · exact ⟨nc, m, hr, hgroups⟩

theorem mem_reload (h : q ∈ (reload V orc pm new).paths) :
    (∃ p ∈ pm.paths, applyDec p (decidePath V orc pm.confs new p) = some q) ∨
    (∃ c ∈ new, c.regex = false ∧ ∃ i, pm.nextInc ≤ i ∧ q = mkPath c c.name none i) := by
  rcases cs_mem new _ _ h with h | h
  · exact Or.inl (List.mem_filterMap.mp h)
  · exact Or.inr h

theorem reload_nextInc_le (V : Variant) (orc : Oracle) (pm : PM) (new : List Conf) :
    pm.nextInc ≤ (reload V orc pm new).nextInc :=
  cs_le _ _ _

theorem invA_add (inv : InvA orc pm) (hn : hasPath pm.paths q.name = false) (hi : q.inc = pm.nextInc)
    (hr : ResOK orc pm.confs q) :
    InvA orc { pm with paths := pm.paths ++ [q], nextInc := pm.nextInc + 1 } := by
  refine ⟨inv.wf, nodup_snoc _ inv.names (hasPath_false hn), ?_, nodup_snoc _ inv.incs ?_,
    List.forall_mem_append.mpr ⟨inv.res, List.forall_mem_singleton.mpr hr⟩, inv.noPanic⟩
  · refine List.forall_mem_append.mpr ⟨fun p hp => Nat.lt_succ_of_lt (inv.incLt p hp), List.forall_mem_singleton.mpr ?_⟩
    rw [hi]; exact Nat.lt_succ_self _
  · intro p hp
    rw [hi]; exact Nat.ne_of_lt (inv.incLt p hp)

theorem invA_reload (inv : InvA orc pm) (wf : WFconfs new) : InvA orc (reload V orc pm new) := by
  have hkept : InvA orc ⟨new, pm.paths.filterMap fun p => applyDec p (decidePath V orc pm.confs new p),
      pm.nextInc, false⟩ := by
    refine ⟨wf, filterMap_nodup (·.name) _ (fun _ _ h => (applyDec_some h).1) inv.names, ?_,
      filterMap_nodup (·.inc) _ (fun _ _ h => (applyDec_some h).2.1) inv.incs, ?_, rfl⟩
    · intro q hq
      obtain ⟨p, hp, hpq⟩ := List.mem_filterMap.mp hq
      rw [(applyDec_some hpq).2.1]; exact inv.incLt p hp
    · intro q hq
      obtain ⟨p, hp, hpq⟩ := List.mem_filterMap.mp hq
      exact kept_res inv.wf.nodup (inv.res p hp) hpq
  -- `pm.pathConfs[pa.confName]` is there: the path's name resolves to a configuration of that name
  have hpan : (pm.paths.any fun p => decidePath V orc pm.confs new p == .panic) = false := by
    apply Bool.eq_false_iff.mpr
    intro h
    obtain ⟨p, hp, hd⟩ := List.any_eq_true.mp h
    obtain ⟨c, hl⟩ := (inv.res p hp).lookup
    exact decidePath_ne_panic inv.wf.nodup hl (beq_iff_eq.mp hd)
  unfold reload
  rw [inv.noPanic, hpan]
  -- the third loop adds new path objects under free names; a static configuration's name resolves to itself
  exact cs_induct new (fun ps k => InvA orc ⟨new, ps, k, false⟩)
    (fun _ hc _ _ k hno inv => invA_add inv hno rfl (mkPath_ok (resolve_exact wf hc) k).1) _ _ hkept

/-- a function that only touches conf / mailbox / pub / readers -/
def Cosmetic (f : LivePath → LivePath) : Prop :=
  ∀ p, (f p).name = p.name ∧ (f p).inc = p.inc ∧ (f p).confName = p.confName ∧ (f p).groups = p.groups

theorem invA_upd (inv : InvA orc pm) (n : Bytes) (hf : Cosmetic f) :
    InvA orc { pm with paths := updPath pm.paths n f } := by
  refine ⟨inv.wf, ?_, forall_updPath inv.incLt fun p _ h => ?_, ?_,
    forall_updPath inv.res fun p _ h => h.congr (hf p).1 (hf p).2.2.1, inv.noPanic⟩
  · rw [updPath_key (·.name) fun p => (hf p).1]; exact inv.names
  · rw [(hf p).2.1]; exact h
  · rw [updPath_key (·.inc) fun p => (hf p).2.1]; exact inv.incs

theorem invA_filter (inv : InvA orc pm) (g : LivePath → Bool) : InvA orc { pm with paths := pm.paths.filter g } :=
  ⟨inv.wf, inv.names.sublist ((List.filter_sublist).map _), fun p hp => inv.incLt p (List.mem_filter.mp hp).1,
    inv.incs.sublist ((List.filter_sublist).map _), fun p hp => inv.res p (List.mem_filter.mp hp).1, inv.noPanic⟩

theorem cosmetic_deliver (V : Variant) (i : Nat) : Cosmetic (fun p => deliverPath V p i) := by
  intro p
  dsimp only
  unfold deliverPath
  split <;> split <;> exact ⟨rfl, rfl, rfl, rfl⟩

def ClientOnly (f : LivePath → LivePath) : Prop :=
  ∀ p, f p = { p with pub := (f p).pub, readers := (f p).readers }

theorem ClientOnly.cosmetic (hf : ClientOnly f) : Cosmetic f := fun p => by
  rw [hf p]; exact ⟨rfl, rfl, rfl, rfl⟩

theorem ClientOnly.mailbox (hf : ClientOnly f) (p : LivePath) : (f p).mailbox = p.mailbox := by rw [hf p]

theorem ClientOnly.effective (hf : ClientOnly f) (p : LivePath) : (f p).effective = p.effective := by
  rw [hf p]; rfl

/-- What `createPath`, a change of a path's clients and `closePathIfIdle` (at a name whose mailbox is
empty) can make of a state, in any order.  Every client event is such a sequence (`step_cases`). -/
inductive Moves (orc : Oracle) (pm : PM) : PM → Prop
  | refl : Moves orc pm pm
  | create {pm' : PM} {n : Bytes} {c : Conf} {m : Option (List Bytes)} : Moves orc pm pm' →
      resolve orc pm'.confs n = some (c, m) → hasPath pm'.paths n = false →
      Moves orc pm { pm' with paths := pm'.paths ++ [mkPath c n m pm'.nextInc], nextInc := pm'.nextInc + 1 }
  | upd {pm' : PM} (n : Bytes) {f : LivePath → LivePath} : Moves orc pm pm' → ClientOnly f →
      Moves orc pm { pm' with paths := updPath pm'.paths n f }
  | idle {pm' : PM} (n : Bytes) : Moves orc pm pm' → (∀ p ∈ pm'.paths, p.name = n → p.mailbox = []) →
      Moves orc pm { pm' with paths := closeIfIdle pm'.paths n }

theorem Moves.invA (h : Moves orc pm pm') (inv : InvA orc pm) : InvA orc pm' := by
  induction h with
  | refl => exact inv
  | create _ hr hno ih => exact invA_add ih hno rfl (mkPath_ok hr _).1
  | upd n _ hf ih => exact invA_upd ih n hf.cosmetic
  | idle n _ _ ih => exact invA_filter ih _

theorem Moves.quiet (h : Moves orc pm pm') (hq : ∀ p ∈ pm.paths, p.name = n → p.mailbox = []) :
    ∀ p ∈ pm'.paths, p.name = n → p.mailbox = [] := by
  induction h with
  | refl => exact hq
  | create _ _ _ ih => exact List.forall_mem_append.mpr ⟨ih, List.forall_mem_singleton.mpr fun _ => rfl⟩
  | upd _ _ hf ih =>
    refine forall_updPath ih fun p _ h hn => ?_
    rw [hf.mailbox]; exact h ((hf.cosmetic p).1.symm.trans hn)
  | idle _ _ _ ih => exact fun p hp => ih p (List.mem_filter.mp hp).1

theorem ensure_moves (h : ensurePath orc pm n = some pm') : Moves orc pm pm' := by
  unfold ensurePath at h
  split at h
  · cases h
  · rename_i c m hr
    split at h
    · cases h; exact .refl
    · rename_i hno
      cases h
      exact .create .refl hr (by simpa using hno)

/-- What holds after a reload, after a delivery, and after every sequence of elementary moves holds after
every event: a client event is such a sequence. -/
theorem step_cases {ev : Ev} {P : PM → Prop} (inv : InvA orc pm) (hok : okEv pm ev)
    (hreload : ∀ new, ev = .reload new → P (reload V orc pm new))
    (hdeliver : ∀ n i, ev = .deliver n i → P { pm with paths := updPath pm.paths n fun p => deliverPath V p i })
    (hmoves : ∀ pm', Moves orc pm pm' → P pm') : P (step V orc pm ev) := by
  unfold step
  cases ev with
  | reload new => exact hreload new rfl
  | deliver n i => exact hdeliver n i rfl
  | pub n =>
    apply hmoves
    simp only [stepS]
    split
    · split
      · exact .refl
      · split
        · exact .refl
        · exact .upd n .refl fun _ => rfl
    · split
      · exact .refl
      · rename_i he
        exact .upd n (ensure_moves he) fun _ => rfl
  | unpub n =>
    apply hmoves
    simp only [stepS]
    split
    · split
      · have h1 : Moves orc pm _ := .upd n .refl (f := fun p => { p with pub := false, readers := [] }) fun _ => rfl
        exact .idle n h1 (h1.quiet hok)
      · exact .refl
    · exact .refl
  | read n id =>
    apply hmoves
    simp only [stepS]
    by_cases hb : (pm.paths.any fun p => p.readers.contains id) = true
    · rw [if_pos hb]; exact .refl
    · rw [if_neg hb]
      cases he : ensurePath orc pm n with
      | none => exact .refl
      | some pm' =>
        have h1 := ensure_moves he
        dsimp only
        cases findPath pm'.paths n with
        | none => exact h1
        | some p =>
          dsimp only
          by_cases hp : p.pub = true
          · rw [if_pos hp]
            refine .upd n h1 fun p => ?_
            split <;> rfl
          · rw [if_neg hp]
            exact .idle n h1 (h1.quiet hok)
  | unread id =>
    apply hmoves
    simp only [stepS]
    split
    · rename_i p hfind
      have hp := List.mem_of_find?_eq_some hfind
      have hc : p.readers.contains id = true := by simpa using List.find?_some hfind
      -- `p` is the only path of its name
      have hquiet : ∀ q ∈ pm.paths, q.name = p.name → q.mailbox = [] := by
        intro q hq hn
        rw [key_inj (·.name) inv.names q hq p hp hn]
        exact hok p hp hc
      have h1 : Moves orc pm _ :=
        .upd p.name .refl (f := fun q => { q with readers := q.readers.filter (· != id) }) fun _ => rfl
      exact .idle p.name h1 (h1.quiet hquiet)
    · exact .refl

theorem invA_step (inv : InvA orc pm) {ev : Ev} (hok : okEv pm ev) : InvA orc (step V orc pm ev) :=
  step_cases inv hok (fun _ e => invA_reload inv (by subst e; exact hok))
    (fun n i _ => invA_upd inv n (cosmetic_deliver V i)) (fun _ h => h.invA inv)

end MtxVerif.C15
