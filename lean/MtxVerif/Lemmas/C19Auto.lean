/-
PathSM, on-demand automaton and hold lists (C19): second invariant layer on top of `Inv`.
-/
import MtxVerif.Lemmas.C18PathSM

namespace MtxVerif.PathSM

/-- some request is on hold -/
def Holding (s : State) : Prop := s.descHold ≠ [] ∨ s.readHold ≠ []

instance (s : State) : Decidable (Holding s) := by unfold Holding; infer_instance

/-- the close timer of an on-demand source only runs while no reader is attached, and the static source is
only kept `ready` by attached readers -/
structure IdleOK (odStatic odPubC closed : Bool) (odSrc odPub : OD) (readers : List Nat) : Prop where
  a1 : odStatic = true → closed = false → odSrc = .closing → readers = []
  a2 : odStatic = true → closed = false → odSrc = .ready → readers ≠ []
  a3 : odPubC = true → closed = false → odPub = .closing → readers = []

/-- requests are only held while there is no stream, on an on-demand path, with the start timer running
(`b3`: since the fix of finding F-C19 `hold-no-timer`, upstream 316e99c, a request held while the on-demand
publisher automaton is `ready`/`closing` re-arms it) -/
structure HoldOK (odStatic odPubC : Bool) (descHold : List Nat) (readHold : List (Nat × Nat))
    (stream : Option Nat) (odSrc odPub : OD) : Prop where
  b1 : descHold ≠ [] ∨ readHold ≠ [] → stream = none
  b4 : descHold ≠ [] ∨ readHold ≠ [] → odStatic = true ∨ odPubC = true
  b2 : odStatic = true → descHold ≠ [] ∨ readHold ≠ [] → odSrc = .waiting
  b3 : odStatic = false → descHold ≠ [] ∨ readHold ≠ [] → odPub = .waiting

attribute [grind cases] IdleOK HoldOK
attribute [grind intro] IdleOK HoldOK

structure Inv2 (s : State) : Prop where
  idle : IdleOK s.conf.odStatic s.conf.odPub s.closed s.odSrc s.odPub s.readers
  hold : HoldOK s.conf.odStatic s.conf.odPub s.descHold s.readHold s.stream s.odSrc s.odPub

theorem OD.cases (o : OD) : o = .initial ∨ o = .waiting ∨ o = .ready ∨ o = .closing := by
  cases o <;> simp

theorem HoldOK.nil {a b : Bool} {st : Option Nat} {o1 o2 : OD} : HoldOK a b [] [] st o1 o2 :=
  ⟨by simp, by simp, by simp, by simp⟩

theorem odPub_not_static {s : State} (hi : Inv s) (h : s.conf.odPub = true) : s.conf.odStatic = false := by
  have hv := (Conf.valid_iff _).mp hi.valid
  have := odStatic_iff s.conf
  unfold Conf.odPub at h
  grind

theorem idle_addReaderPost (rid r : Nat) (w : W) (hi : Inv w.s)
    (h : IdleOK w.s.conf.odStatic w.s.conf.odPub w.s.closed w.s.odSrc w.s.odPub w.s.readers) :
    IdleOK (addReaderPost rid r w).s.conf.odStatic (addReaderPost rid r w).s.conf.odPub (addReaderPost rid r w).s.closed
      (addReaderPost rid r w).s.odSrc (addReaderPost rid r w).s.odPub (addReaderPost rid r w).s.readers := by
  have hq := odPub_not_static hi
  refine addReaderPost_cases rid r w
    (P := fun s => IdleOK s.conf.odStatic s.conf.odPub s.closed s.odSrc s.odPub s.readers) (fun _ => h) h (fun _ _ => ?_)
  -- a reader was admitted: a close timer that was running has been stopped
  have hne : w.s.readers ++ [r] ≠ [] := by simp
  clear hi
  grind

theorem inv2_consume (w : W) (hi : Inv w.s) (hs : w.s.stream.isSome = true)
    (h : IdleOK w.s.conf.odStatic w.s.conf.odPub w.s.closed w.s.odSrc w.s.odPub w.s.readers) :
    Inv2 (consumeOnHoldRequests w).s := by
  refine ⟨?_, ?_⟩
  · exact (consume_pres
      (fun s => (Inv s ∧ s.stream.isSome = true) ∧ IdleOK s.conf.odStatic s.conf.odPub s.closed s.odSrc s.odPub s.readers)
      (fun rid r w h => ⟨⟨inv_addReaderPost rid r w h.1.1 h.1.2,
        (congrArg State.stream (addReaderPost_frame rid r w) :).symm ▸ h.1.2⟩, idle_addReaderPost rid r w h.1.1 h.2⟩)
      (fun _ h => ⟨⟨{ h.1.1 with clH := fun hc => ⟨rfl, (h.1.1.clH hc).2⟩ }, h.1.2⟩, h.2⟩)
      (fun _ h => ⟨⟨{ h.1.1 with clH := fun hc => ⟨(h.1.1.clH hc).1, rfl⟩ }, h.1.2⟩, h.2⟩) w ⟨⟨hi, hs⟩, h⟩).2
  · rw [(consume_holds w).1, (consume_holds w).2]; exact HoldOK.nil

theorem inv2_execRemove (w : W) (hi : Inv w.s) (h : Inv2 w.s) (q : Nat) (hs : w.s.source = some (.pub q)) :
    Inv2 (executeRemovePublisher w).s := by
  rw [executeRemovePublisher_s]
  have hv := odStatic_iff w.s.conf
  have hk := hi.kind
  exact ⟨by have := h.idle; grind, by have := h.hold; grind⟩

/-- one loop step keeps the second layer; the arms are those of `stepW_cases_s` -/
theorem inv2_stepW (e : Event) (w : W) (hi : Inv w.s) (h : Inv2 w.s) : Inv2 (stepW e w).s := by
  have hq := odPub_not_static hi
  have hsrc := hi.src
  refine stepW_cases_s e w hi
    (same := h)
    (detach := fun _ => ⟨h.idle, h.hold⟩)
    (hold := ?hold) (readPost := ?readPost)
    (pubAttach := ?pubAttach)
    (removePublisher := fun p _ hs => inv2_execRemove w hi h p hs)
    (removeReader := ?removeReader) (srcReady := ?srcReady) (srcNotReady := ?srcNotReady) (timer := ?timer)
    (reload := fun _ _ _ => ⟨h.idle, h.hold⟩)
    (close := fun _ => by rw [doClose_s]; exact ⟨by grind, HoldOK.nil⟩)
  case hold =>
    intro dh rh hc hs hg
    rw [holdDemand_s]
    have hv := odStatic_iff w.s.conf
    have hval := (Conf.valid_iff _).mp hi.valid
    have hav := hi.avail
    have ho1 := OD.cases w.s.odSrc
    have ho2 := OD.cases w.s.odPub
    exact ⟨by have := h.idle; grind, by grind⟩
  case readPost =>
    -- with a stream nothing is on hold, before and after
    intro rid r _ hs
    have hn : ¬ (w.s.descHold ≠ [] ∨ w.s.readHold ≠ []) := fun hh => by rw [h.hold.b1 hh] at hs; cases hs
    refine ⟨idle_addReaderPost rid r w hi h.idle, ?_⟩
    rw [(addReaderPost_holds rid r w).1, (addReaderPost_holds rid r w).2]
    exact ⟨fun hh => absurd hh hn, fun hh => absurd hh hn, fun _ hh => absurd hh hn, fun _ hh => absurd hh hn⟩
  case pubAttach =>
    intro p ok w1 tr i1 i2 i3 i4
    have h1 : Inv2 w1.s := tr Inv2 h fun q hq => inv2_execRemove w hi h q hq
    refine pubAttach_cases p ok w1 i1 i2 i3 i4 ⟨h1.idle, h1.hold⟩ fun w2 e2 j1 j2 => inv2_consume w2 j1 j2 ?_
    rw [e2]
    clear hq hsrc
    have hv := odStatic_iff w1.s.conf
    have hval := (Conf.valid_iff _).mp i1.valid
    have hq : w1.s.conf.odPub = w1.s.conf.runOnDemand := rfl
    have hp := i1.pub
    have hav := i1.avail
    unfold pubMid fed
    have := h1.idle; grind
  case removeReader =>
    intro r hc
    rw [doRemoveReader_s]
    have h3 : w.s.readers.filter (· != r) ≠ [] → w.s.readers ≠ [] := by
      intro hne he; rw [he] at hne; exact hne rfl
    have h4 : (w.s.readers.filter (· != r)).isEmpty = true ↔ w.s.readers.filter (· != r) = [] := List.isEmpty_iff
    have hh := h.hold
    have hp := hi.pub
    generalize w.s.readers.filter (· != r) = rs at *
    exact ⟨by have := h.idle; grind, by grind⟩
  case srcReady =>
    intro ok hc hg
    refine srcReady_cases ok w hi hc hg ⟨h.idle, h.hold⟩ fun w1 e1 h1 h2 => inv2_consume w1 h1 h2 ?_
    rw [e1]
    have hk : w.s.conf.kind = .static := hi.kind.kStatic.mpr hg.1
    have hv := odStatic_iff w.s.conf
    have hval := (Conf.valid_iff _).mp hi.valid
    have hav := hi.avail
    unfold srcMid fed
    have := h.idle; grind
  case srcNotReady =>
    intro hc hg
    rw [srcNotReady_s]
    have hk : w.s.conf.kind = .static := hi.kind.kStatic.mpr hg.1
    have hh := h.hold
    exact ⟨by have := h.idle; grind, by grind⟩
  case timer =>
    intro t hc ha
    rw [fireTimer_s t w hi hc ha]
    have hp := hi.pub
    have hid := h.idle
    have hh := h.hold
    cases t <;> simp only [timerArmed] at ha ⊢
    · exact ⟨by grind, HoldOK.nil⟩
    · exact ⟨by grind, by grind⟩
    · exact ⟨by grind, HoldOK.nil⟩
    · exact ⟨by grind, by grind⟩

theorem inv2_init (c : Conf) : Inv2 (init c) := by
  rw [init_s]
  exact ⟨by constructor <;> simp, HoldOK.nil⟩

theorem inv2_run (es : List Event) : ∀ s, Inv s → Inv2 s → Inv2 (run s es).1 := by
  induction es with
  | nil => intro s _ h; exact h
  | cons e es ih => intro s hi h; exact ih _ (inv_step s e hi) (inv2_stepW e { s := s } hi h)

theorem inv2_reach (c : Conf) (hv : c.valid = true) (es : List Event) : Inv2 (run (init c) es).1 :=
  inv2_run es _ (inv_init c hv) (inv2_init c)

end MtxVerif.PathSM
