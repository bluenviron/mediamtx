/-
PathSM, request accounting (C19): every helper conserves "replies given + requests on hold";
the only places where the sum grows are the two request entry points.
-/
import MtxVerif.Lemmas.C18Keeps

namespace MtxVerif.PathSM

/-- request ids answered in an output list (with multiplicity) -/
def replyIds (out : List Out) : List Nat :=
  out.filterMap fun o => match o with | .reply rid _ => some rid | _ => none

/-- request ids on hold (with multiplicity) -/
def pending (s : State) : List Nat := s.descHold ++ s.readHold.map (·.1)

/-- answers so far in this step + still on hold -/
def tot (rid : Nat) (w : W) : Nat := (replyIds w.out).count rid + (pending w.s).count rid

@[simp] theorem replyIds_nil : replyIds [] = [] := rfl
@[simp] theorem replyIds_append (a b : List Out) : replyIds (a ++ b) = replyIds a ++ replyIds b := by
  simp [replyIds]
@[simp] theorem replyIds_reply (rid : Nat) (k : ReplyKind) : replyIds [.reply rid k] = [rid] := rfl
@[simp] theorem replyIds_cons (o : Out) (l : List Out) :
    replyIds (o :: l) = (match o with | .reply rid _ => [rid] | _ => []) ++ replyIds l := by
  cases o <;> rfl

/-- a helper that neither answers a request nor touches the hold lists -/
def Silent (f : W → W) : Prop :=
  ∀ w, replyIds (f w).out = replyIds w.out ∧ (f w).s.descHold = w.s.descHold ∧ (f w).s.readHold = w.s.readHold

theorem Silent.tot {f : W → W} (h : Silent f) (rid : Nat) (w : W) : tot rid (f w) = tot rid w := by
  obtain ⟨h1, h2, h3⟩ := h w
  simp [PathSM.tot, pending, h1, h2, h3]

theorem Silent.comp {f g : W → W} (hf : Silent f) (hg : Silent g) : Silent (fun w => g (f w)) :=
  fun w => ⟨(hg (f w)).1.trans (hf w).1, (hg (f w)).2.1.trans (hf w).2.1, (hg (f w)).2.2.trans (hf w).2.2⟩

theorem replyIds_plain {o : Out} (ho : o.plain = true) : replyIds [o] = [] := by
  cases o <;> first | rfl | cases ho

/-- `Silent` as a relation between the state `w` a helper starts from and the states it goes through -/
theorem keeps_silent (w : W) : Keeps False fun w' =>
    replyIds w'.out = replyIds w.out ∧ w'.s.descHold = w.s.descHold ∧ w'.s.readHold = w.s.readHold where
  plain o _ ho h := by rw [emit_out, replyIds_append, replyIds_plain ho, List.append_nil]; exact h
  frame f _ hf h := by
    simp only [held, Prod.mk.injEq] at hf
    exact ⟨h.1, hf.1.trans h.2.1, hf.2.1.trans h.2.2⟩
  fire k b _ _ h := by
    refine ⟨?_, ?_⟩
    · rw [emit_out, replyIds_append]; exact (List.append_nil _).trans h.1
    · cases k <;> exact h.2

theorem Silent.of_keeps {f : W → W} (hf : ∀ {R : W → Prop}, Keeps False R → ∀ {w : W}, R w → R (f w)) : Silent f :=
  fun w => hf (keeps_silent w) ⟨rfl, rfl, rfl⟩

theorem silent_setOffline : Silent setOffline := .of_keeps setOffline_keeps
theorem silent_setNotAvailable : Silent setNotAvailable := .of_keeps setNotAvailable_keeps
theorem silent_executeRemovePublisher : Silent executeRemovePublisher := .of_keeps executeRemovePublisher_keeps
theorem silent_onDemandStaticSourceStop : Silent onDemandStaticSourceStop := .of_keeps onDemandStaticSourceStop_keeps
theorem silent_onDemandPublisherStop : Silent onDemandPublisherStop := .of_keeps onDemandPublisherStop_keeps
theorem silent_holdDemand : Silent holdDemand := .of_keeps fun K _ h => holdDemand_keeps K nofun h
theorem silent_closeCheck : Silent closeCheck := .of_keeps closeCheck_keeps
theorem silent_closeSource (s0 : State) : Silent (closeSource s0) := .of_keeps fun K _ h => closeSource_keeps K s0 h

theorem replyIds_replyStream (rid : Nat) (w : W) : replyIds (replyStream rid w).out = replyIds w.out ++ [rid] := by
  obtain ⟨k, e⟩ := replyStream_eq rid w
  rw [e]; simp

theorem replyIds_addReaderPost (rid r : Nat) (w : W) :
    replyIds (addReaderPost rid r w).out = replyIds w.out ++ [rid] := by
  obtain ⟨l, k, e, hl⟩ := addReaderPost_out rid r w
  rw [e]
  rcases hl with rfl | rfl | rfl <;> simp

theorem tot_addReaderPost (rid r rid' : Nat) (w : W) :
    tot rid' (addReaderPost rid r w) = tot rid' w + (if rid = rid' then 1 else 0) := by
  unfold tot pending
  rw [replyIds_addReaderPost, (addReaderPost_holds rid r w).1, (addReaderPost_holds rid r w).2]
  simp [List.count_cons]
  omega

theorem replyIds_foldl {α : Type} (f : W → α → W) (id : α → Nat)
    (hf : ∀ w a, replyIds (f w a).out = replyIds w.out ++ [id a]) (l : List α) (w : W) :
    replyIds (l.foldl f w).out = replyIds w.out ++ l.map id := by
  induction l generalizing w with
  | nil => simp
  | cons a as ih => rw [List.foldl_cons, ih, hf]; simp

/-- `consumeOnHoldRequests` answers every held request exactly once (and holds nothing afterwards: `consume_holds`) -/
theorem tot_consume (rid' : Nat) (w : W) : tot rid' (consumeOnHoldRequests w) = tot rid' w := by
  have e : replyIds (consumeOnHoldRequests w).out = replyIds w.out ++ pending w.s := by
    unfold consumeOnHoldRequests pending
    dsimp only
    rw [upd_out, replyIds_foldl _ (·.1) (fun w x => replyIds_addReaderPost x.1 x.2 w), upd_out,
      replyIds_foldl _ (fun rid => rid) (fun w rid => replyIds_replyStream rid w), upd_s, foldl_replyStream_s]
    simp
  unfold tot
  rw [e]
  unfold pending
  rw [(consume_holds w).1, (consume_holds w).2]
  simp

/-- `failHolds` answers every held request exactly once (and holds nothing afterwards: `failHolds_s`) -/
theorem tot_failHolds (k : ReplyKind) (rid' : Nat) (w : W) : tot rid' (failHolds k w) = tot rid' w := by
  unfold failHolds tot pending
  have e : ∀ {α : Type} (id : α → Nat) (l : List α), replyIds (l.map fun x => Out.reply (id x) k) = l.map id := by
    intro α id l; induction l with
    | nil => rfl
    | cons x xs ih => simp [ih]
  simp [e (fun rid : Nat => rid), e (fun x : Nat × Nat => x.1)]

theorem tot_emit (o : Out) (rid' : Nat) (w : W) :
    tot rid' (emit o w) = tot rid' w + (replyIds [o]).count rid' := by
  unfold tot pending; simp; omega

theorem tot_upd (f : State → State) (rid' : Nat) (w : W)
    (h1 : (f w.s).descHold = w.s.descHold) (h2 : (f w.s).readHold = w.s.readHold) :
    tot rid' (upd f w) = tot rid' w := by
  unfold tot pending; simp [h1, h2]

def reqCount (e : Event) (rid' : Nat) : Nat :=
  match e with
  | .describe rid => if rid = rid' then 1 else 0
  | .addReader rid _ => if rid = rid' then 1 else 0
  | _ => 0

theorem silent_doRemoveReader (r : Nat) : Silent (doRemoveReader r) := .of_keeps fun K _ h => doRemoveReader_keeps K r h

theorem keeps_tot (rid' n : Nat) : Keeps False fun w => tot rid' w = n where
  plain o _ ho h := by rw [tot_emit, replyIds_plain ho, h]; rfl
  frame f _ hf h := by
    simp only [held, Prod.mk.injEq] at hf
    rw [tot_upd _ _ _ hf.1 hf.2.1, h]
  fire k b _ _ h := by rw [tot_emit, tot_upd _ _ _ (by cases k <;> rfl) (by cases k <;> rfl), h]; rfl

theorem tot_pubAttach (p : Nat) (ok : Bool) (rid' : Nat) (w : W) : tot rid' (pubAttach p ok w) = tot rid' w :=
  pubAttach_keeps (keeps_tot rid' _) p ok (fun _ h => by rw [tot_consume, h]) nofun rfl

theorem tot_srcReady (ok : Bool) (rid' : Nat) (w : W) : tot rid' (doSourceStaticSetReady ok w) = tot rid' w :=
  srcReady_keeps (keeps_tot rid' _) ok (fun _ h => by rw [tot_consume, h]) nofun rfl

theorem tot_srcNotReady (rid' : Nat) (w : W) : tot rid' (doSourceStaticSetNotReady w) = tot rid' w := by
  unfold doSourceStaticSetNotReady
  dsimp only
  have h0 : tot rid' (if w.s.conf.alwaysAvailable = true then startOffline (setOffline w) else setNotAvailable w) = tot rid' w := by
    split
    · unfold startOffline; rw [tot_upd _ _ _ rfl rfl]; exact silent_setOffline.tot _ _
    · exact silent_setNotAvailable.tot _ _
  generalize (if w.s.conf.alwaysAvailable = true then startOffline (setOffline w) else setNotAvailable w) = w1 at h0 ⊢
  split
  · rw [silent_onDemandStaticSourceStop.tot, tot_upd _ _ _ rfl rfl, h0]
  · rw [tot_upd _ _ _ rfl rfl, h0]

theorem tot_fireTimer (t : Timer) (rid' : Nat) (w : W) : tot rid' (fireTimer t w) = tot rid' w := by
  cases t <;> unfold fireTimer <;> dsimp only
  · rw [silent_closeCheck.tot]; unfold doOnDemandStaticSourceReadyTimer
    rw [silent_onDemandStaticSourceStop.tot, tot_failHolds, tot_upd _ _ _ rfl rfl]
  · rw [silent_closeCheck.tot]; unfold doOnDemandStaticSourceCloseTimer
    split
    · simp [panic, tot, pending, emit, upd]
    · rw [silent_onDemandStaticSourceStop.tot, silent_setNotAvailable.tot, tot_upd _ _ _ rfl rfl]
  · rw [silent_closeCheck.tot]; unfold doOnDemandPublisherReadyTimer
    rw [silent_onDemandPublisherStop.tot, tot_failHolds, tot_upd _ _ _ rfl rfl]
  · unfold doOnDemandPublisherCloseTimer
    rw [silent_onDemandPublisherStop.tot, tot_upd _ _ _ rfl rfl]

theorem tot_doClose (rid' : Nat) (w : W) : tot rid' (doClose w) = tot rid' w := by
  unfold doClose
  dsimp only
  have h4 : ∀ w1 : W, tot rid' (if w.s.stream.isSome = true then setNotAvailable w1 else w1) = tot rid' w1 := by
    intro w1; split
    · exact silent_setNotAvailable.tot _ _
    · rfl
  have h3 : ∀ w1 : W, tot rid' (if w.s.hkDemand = true then
      emit (Out.hook Hook.demand false) (upd (fun s => { s with hkDemand := false }) w1) else w1) = tot rid' w1 := by
    intro w1; split
    · rw [tot_emit, tot_upd _ _ _ rfl rfl]; rfl
    · rfl
  rw [tot_upd _ _ _ rfl rfl, h4, h3, (silent_closeSource w.s).tot, tot_failHolds, tot_upd _ _ _ rfl rfl, tot_emit]
  rfl

theorem reqCount_asks (e : Event) (rid' : Nat) : reqCount e rid' = if e.asks = some rid' then 1 else 0 := by
  cases e <;> simp [reqCount, Event.asks]

theorem tot_hold (rid rid' : Nat) (w : W) (f : State → State)
    (h : (pending (f (holdDemand w).s)).count rid' =
      (pending (holdDemand w).s).count rid' + (if rid = rid' then 1 else 0)) :
    tot rid' (upd f (holdDemand w)) = tot rid' w + (if rid = rid' then 1 else 0) := by
  obtain ⟨a1, a2, a3⟩ := silent_holdDemand w
  unfold tot
  rw [upd_out, upd_s, a1, h]
  unfold pending
  rw [a2, a3]
  omega

theorem tot_stepW (e : Event) (rid' : Nat) (w : W) (hi : Inv w.s) :
    tot rid' (stepW e w) = tot rid' w + reqCount e rid' := by
  have hreq : ∀ e rid, e.asks = some rid → reqCount e rid' = if rid = rid' then 1 else 0 := by
    intro e rid h; rw [reqCount_asks, h]; simp
  have hno : ∀ e, e.asks = none → reqCount e rid' = 0 := by
    intro e h; rw [reqCount_asks, h]; simp
  refine stepW_cases (P := fun e w' => tot rid' w' = tot rid' w + reqCount e rid') e w hi
    (cc := fun _ _ ih => by rw [silent_closeCheck.tot, ih])
    (reply := fun e rid k h => by rw [tot_emit, hreq e rid h]; simp [List.count_cons])
    (pubReply := fun _ _ _ => by rw [tot_emit]; rfl)
    (ignored := fun e h => by rw [tot_emit, hno e h]; rfl)
    (nop := fun e h => by rw [hno e h]; rfl)
    (write := fun _ => by rw [tot_emit]; rfl)
    (detach := fun _ => tot_upd _ _ _ rfl rfl)
    (descHold := fun rid _ _ _ => by
      rw [hreq _ rid rfl]
      exact tot_hold rid rid' w _ (by simp [pending, List.count_cons]; omega))
    (readHold := fun rid r _ _ _ => by
      rw [hreq _ rid rfl]
      exact tot_hold rid rid' w _ (by simp [pending, List.count_cons]; omega))
    (readPost := fun rid r _ _ => by rw [hreq _ rid rfl]; exact tot_addReaderPost rid r rid' w)
    (pubFresh := fun p ok _ _ _ => tot_pubAttach p ok rid' w)
    (pubReplace := fun p ok q w1 _ _ e1 _ _ _ _ => by
      rw [tot_pubAttach, e1, silent_executeRemovePublisher.tot, tot_emit]; rfl)
    (removePublisher := fun _ _ _ => silent_executeRemovePublisher.tot _ _)
    (removeReader := fun r _ => (silent_doRemoveReader r).tot rid' w)
    (srcReady := fun ok _ _ => tot_srcReady ok rid' w)
    (srcNotReady := fun _ _ => tot_srcNotReady rid' w)
    (timer := fun t _ _ => tot_fireTimer t rid' w)
    (reload := fun _ _ _ => tot_upd _ _ _ rfl rfl)
    (close := fun _ => tot_doClose rid' w)

end MtxVerif.PathSM
