/-
C41 — the call sites of `tls.MakeConfig` (facts regenerated from the Go source by tools/xlate/c41).

`Props/C41.lean` proves that the configuration MakeConfig returns accepts exactly the pinned certificate.  The
property is about every outgoing TLS connection that has a fingerprint configured (sources, forwarding, auth server,
JWKS): it holds only if each of those clients is given that configuration whatever the URL looks like.  The decided
theorems below are over the regenerated table, so a client that stops calling MakeConfig, calls it only for some
targets, passes something other than its fingerprint setting, drops the result, or builds a client TLS configuration
by hand breaks an obligation.
-/
import MtxVerif.Gen.C41

namespace MtxVerif.C41Sites
open MtxVerif.Gen.C41

def siteOK (s : Site) : Bool :=
  s.argIsFingerprint && (s.guard != .other) && (s.use != .other) &&
  -- only the JWKS download may sit behind the refresh-period test
  (s.guard == .none || s.client == .authJWKS)

def knownClients : List Client :=
  [.authHTTP, .authJWKS, .fwdRTMP, .fwdRTSP, .fwdWebRTC, .srcHLS, .srcMoQ, .srcRTMP, .srcRTSP, .srcWebRTC]

/-- every call of MakeConfig passes a fingerprint setting, is not conditional on anything but the JWKS refresh period,
and its result becomes the client's TLS configuration -/
theorem real_sites_ok : makeConfigSites.all siteOK = true := by decide +kernel

/-- each of the ten clients named by the property (HTTP auth, JWKS, three forwarders, five sources) calls it -/
theorem real_clients_covered :
    knownClients.all (fun c => makeConfigSites.any (fun s => s.client == c)) = true := by decide +kernel

/-- no client-side `crypto/tls` configuration is built by hand (only the empty fallback used without a fingerprint) -/
theorem real_no_handmade_client_config : nonEmptyClientConfigLiterals = 0 := by decide +kernel

/-- generic: under the first two facts, every known client obtains its TLS configuration from MakeConfig applied to its
own fingerprint setting, unconditionally (JWKS: whenever it downloads) -/
theorem client_pinned (sites : List Site) (hok : sites.all siteOK = true)
    (hcov : knownClients.all (fun c => sites.any (fun s => s.client == c)) = true)
    (c : Client) (hc : c ∈ knownClients) :
    ∃ s ∈ sites, s.client = c ∧ s.argIsFingerprint = true ∧ s.use ≠ .other ∧
      (s.guard = .none ∨ (s.guard = .refreshPeriod ∧ c = .authJWKS)) := by
  obtain ⟨s, hs, hsc⟩ := List.any_eq_true.mp (List.all_eq_true.mp hcov c hc)
  have hsc : s.client = c := by simpa using hsc
  have h2 := List.all_eq_true.mp hok s hs
  simp only [siteOK, Bool.and_eq_true, Bool.or_eq_true, bne_iff_ne, ne_eq, beq_iff_eq] at h2
  obtain ⟨⟨⟨ha, hg⟩, hu⟩, hgc⟩ := h2
  refine ⟨s, hs, hsc, ha, hu, ?_⟩
  cases hgd : s.guard with
  | none => exact Or.inl rfl
  | other => exact absurd hgd hg
  | refreshPeriod => exact Or.inr ⟨rfl, hsc ▸ hgc.resolve_left (by simp [hgd])⟩

end MtxVerif.C41Sites
