/-
C15 — preservation of the path-side invariants (`InvB`: configuration, static paths; `InvG`: groups).
-/
import MtxVerif.Lemmas.C15Inv

namespace MtxVerif.C15

variable {V : Variant} {orc : Oracle} {confs new : List Conf} {pm pm' : PM} {p : LivePath} {f : LivePath → LivePath}

/-- at a quiet path the two sides agree: the path runs with the configuration resolution selects -/
theorem conf_resolved (hr : ResOK orc confs p) (he : EffOK confs p) (hq : p.mailbox = []) :
    ∃ m, resolve orc confs p.name = some (p.conf, m) ∧ p.confName = p.conf.name := by
  obtain ⟨c, m, hres, hcn⟩ := hr
  have hc : p.effective = p.conf := by unfold LivePath.effective; rw [hq]; rfl
  unfold EffOK at he
  rw [hc, ← hcn, (resolve_some hres).2.1] at he
  obtain rfl := Option.some.inj he
  exact ⟨m, hres, hcn.symm⟩

/-- the quiet path of a static configuration runs with that (static) configuration, so it is never idle-closed -/
theorem static_not_closed (invA : InvA orc pm) (hp : p ∈ pm.paths) (he : EffOK pm.confs p) (hq : p.mailbox = [])
    {c : Conf} (hc : c ∈ pm.confs) (hs : c.regex = false) (hn : p.name = c.name) : shouldClose p = false := by
  obtain ⟨m, hres, _⟩ := conf_resolved (invA.res p hp) he hq
  rw [hn, resolve_exact invA.wf hc] at hres
  unfold shouldClose
  rw [← (Prod.mk.inj (Option.some.inj hres)).1, hs]
  rfl

/-- receiving the oldest pending configuration (or, in the `fixOrder` variant, the latest and dropping the
rest) does not change the configuration the path ends up with -/
theorem deliver_effective {i : Nat} (h : V.fixOrder = true ∨ i = 0) (p : LivePath) :
    (deliverPath V p i).effective = p.effective := by
  unfold deliverPath
  split
  · split
    · rename_i c hc
      unfold LivePath.effective
      rw [hc]; rfl
    · rfl
  · rename_i hV
    rcases h with h | rfl
    · exact absurd h hV
    · cases hm : p.mailbox with
      | nil => simp
      | cons c rest =>
        simp only [List.getElem?_cons_zero, removeNth]
        unfold LivePath.effective
        rw [hm, List.getLast?_cons]
        rfl

theorem invB_reload (hn : (pm.confs.map (·.name)).Nodup) (invB : InvB pm) (wf : WFconfs new) :
    InvB (reload V orc pm new) := by
  constructor
  · intro q hq
    rcases mem_reload hq with ⟨p, hp, hpq⟩ | ⟨c, hc, _, i, _, rfl⟩
    · exact kept_eff hn (invB.eff p hp) hpq
    · exact (mkPath_ok (resolve_exact (orc := orc) wf hc) i).2.1
  · intro c hc hs
    exact cs_static new _ _ c hc hs

theorem invB_upd (invB : InvB pm) (n : Bytes) (hf : Cosmetic f) (he : ∀ p, (f p).effective = p.effective) :
    InvB { pm with paths := updPath pm.paths n f } := by
  refine ⟨forall_updPath invB.eff fun p _ h => h.congr (hf p).2.2.1 (he p), ?_⟩
  · intro c hc hs
    obtain ⟨p, hp, hn⟩ := invB.stat c hc hs
    refine ⟨if p.name == n then f p else p, List.mem_map.mpr ⟨p, hp, rfl⟩, ?_⟩
    split
    · rw [(hf p).1]; exact hn
    · exact hn

/-- idle-closing at a quiet name never removes the path of a static configuration -/
theorem invB_idle (invA : InvA orc pm) (invB : InvB pm) (n : Bytes)
    (hq : ∀ p ∈ pm.paths, p.name = n → p.mailbox = []) : InvB { pm with paths := closeIfIdle pm.paths n } := by
  constructor
  · intro p hp; exact invB.eff p (List.mem_filter.mp hp).1
  · intro c hc hs
    obtain ⟨p, hp, hn⟩ := invB.stat c hc hs
    refine ⟨p, List.mem_filter.mpr ⟨hp, ?_⟩, hn⟩
    by_cases hpn : p.name = n
    · rw [static_not_closed invA hp (invB.eff p hp) (hq p hp hpn) hc hs hn]; simp
    · simp [hpn]

theorem Moves.invB (h : Moves orc pm pm') (invA : InvA orc pm) (invB : InvB pm) : InvB pm' := by
  induction h with
  | refl => exact invB
  | create _ hr _ ih =>
    refine ⟨List.forall_mem_append.mpr ⟨ih.eff, List.forall_mem_singleton.mpr (mkPath_ok hr _).2.1⟩, fun c hc hs => ?_⟩
    obtain ⟨p, hp, hn⟩ := ih.stat c hc hs
    exact ⟨p, List.mem_append_left _ hp, hn⟩
  | upd n _ hf ih => exact invB_upd ih n hf.cosmetic hf.effective
  | idle n h hq ih => exact invB_idle (h.invA invA) ih n hq

theorem invB_step (invA : InvA orc pm) (invB : InvB pm) {ev : Ev} (hok : okEv pm ev)
    (hfifo : V.fixOrder = true ∨ Fifo ev) : InvB (step V orc pm ev) :=
  step_cases invA hok (fun _ e => invB_reload invA.wf.nodup invB (by subst e; exact hok))
    (fun n i e => invB_upd invB n (cosmetic_deliver V i) (deliver_effective (by subst e; exact hfifo)))
    (fun _ h => h.invB invA invB)

theorem invG_upd (invG : InvG orc pm) (n : Bytes) (hf : Cosmetic f) :
    InvG orc { pm with paths := updPath pm.paths n f } :=
  forall_updPath invG fun p _ h => h.congr (hf p).1 (hf p).2.2.2

theorem Moves.invG (h : Moves orc pm pm') (invG : InvG orc pm) : InvG orc pm' := by
  induction h with
  | refl => exact invG
  | create _ hr _ ih => exact List.forall_mem_append.mpr ⟨ih, List.forall_mem_singleton.mpr (mkPath_ok hr _).2.2⟩
  | upd n _ hf ih => exact invG_upd ih n hf.cosmetic
  | idle _ _ _ ih => exact fun p hp => ih p (List.mem_filter.mp hp).1

theorem invG_step (invA : InvA orc pm) (invG : InvG orc pm) {ev : Ev} (hok : okEv pm ev)
    (hside : V.fixGroups = true ∨ NoStale orc pm ev) : InvG orc (step V orc pm ev) := by
  refine step_cases invA hok (fun new e => ?_) (fun n i _ => invG_upd invG n (cosmetic_deliver V i))
    (fun _ h => h.invG invG)
  subst e
  intro q hq
  rcases mem_reload hq with ⟨p, hp, hpq⟩ | ⟨c, hc, _, i, _, rfl⟩
  · exact kept_grp invA.wf hok (invA.res p hp) (invG p hp) (hside.imp_right fun h => h p hp) hpq
  · exact (mkPath_ok (resolve_exact hok hc) i).2.2

/-- start-up is the third loop of a reload from the empty state -/
theorem init_inv (wf : WFconfs confs) : InvA orc (initPM confs) ∧ InvB (initPM confs) ∧ InvG orc (initPM confs) := by
  have a : InvA orc ⟨[], [], 0, false⟩ :=
    ⟨⟨.nil, fun _ h => (nomatch h)⟩, .nil, fun _ h => (nomatch h), .nil, fun _ h => (nomatch h), rfl⟩
  have e : initPM confs = step asIs orc ⟨[], [], 0, false⟩ (.reload confs) := rfl
  rw [e]
  exact ⟨invA_step a wf, invB_step a ⟨fun _ h => (nomatch h), fun _ h => (nomatch h)⟩ wf (Or.inr trivial),
    invG_step a (fun _ h => (nomatch h)) wf (Or.inr fun _ h => (nomatch h))⟩

end MtxVerif.C15
