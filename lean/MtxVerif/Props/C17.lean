/-
C17 — readers get the publisher's units in order; drops are counted.  Property theorems
(all quantified over every event list from the empty stream and every queue size).

Property at full strength = `order` + `at_most_once` + `only_subscribed` + `accounting` +
`skip_only_when_full` + `silent_after_remove` (+ `written_is_history` tying the ghost field to the events,
`no_backlog_when_idle`: an accepted unit is handed over as soon as the reader is free).
-/
import MtxVerif.Model.C17

namespace MtxVerif.C17

/-- invariant of one reader (without the quiescence part) -/
structure RCore (r : Rd) : Prop where
  sub : (r.delivered ++ r.q).Sublist r.written
  acct : r.written.length = r.delivered.length + r.discarded + r.q.length + r.dropped
  subs : ∀ u ∈ r.written, r.subs.contains u.fmt = true
  bound : r.q.length ≤ r.cap
  detached : r.attached = false → r.q = [] ∧ r.infl = none
  noDrop : r.attached = true → r.dropped = 0

/-- invariant of one reader between two events -/
structure RInv (r : Rd) : Prop where
  core : RCore r
  idleEmpty : r.idle = true → r.q = []

theorem rinv_fresh (id : Nat) (subs : List Nat) (cap : Nat) :
    RInv { id := id, subs := subs, cap := cap } :=
  ⟨⟨List.Sublist.refl _, rfl, nofun, Nat.zero_le _, nofun, fun _ => rfl⟩, fun _ => rfl⟩

section
variable (r : Rd) (u : U)

theorem settle_cases : (r.settle = r ∧ (r.idle = true → r.q = [])) ∨
    ∃ u rest, r.idle = true ∧ r.q = u :: rest ∧
      r.settle = { r with q := rest, infl := some u, delivered := r.delivered ++ [u] } := by
  unfold Rd.settle
  split
  · split
    · exact .inr ⟨_, _, ‹_›, ‹_›, rfl⟩
    · exact .inl ⟨rfl, fun _ => ‹_›⟩
  · exact .inl ⟨rfl, fun hi => absurd hi ‹_›⟩

theorem push_cases :
    ((r.attached && r.subs.contains u.fmt) = false ∧ r.push u = r) ∨
    ((r.attached && r.subs.contains u.fmt) = true ∧
      ((r.q.length < r.cap ∧ r.push u = ({ r with written := r.written ++ [u], q := r.q ++ [u] }).settle) ∨
       (¬ r.q.length < r.cap ∧ r.push u = { r with written := r.written ++ [u], discarded := r.discarded + 1 }))) := by
  unfold Rd.push
  split
  · split
    · exact .inr ⟨‹_›, .inl ⟨‹_›, rfl⟩⟩
    · exact .inr ⟨‹_›, .inr ⟨‹_›, rfl⟩⟩
  · exact .inl ⟨Bool.eq_false_iff.mpr ‹_›, rfl⟩

structure Progress (r r' : Rd) : Prop where
  id : r'.id = r.id
  written : r'.written = r.written
  discarded : r'.discarded = r.discarded
  delivered : r.delivered <+: r'.delivered

theorem Progress.refl (r : Rd) : Progress r r := ⟨rfl, rfl, rfl, List.prefix_refl _⟩

theorem ite_progress {r r' : Rd} {c : Bool} (h : Progress r r') : Progress r (if c then r' else r) := by
  cases c
  · exact .refl r
  · exact h

theorem settle_progress : Progress r r.settle := by
  rcases settle_cases r with ⟨h, _⟩ | ⟨u, rest, _, _, h⟩ <;> rw [h]
  · exact .refl r
  · exact ⟨rfl, rfl, rfl, List.prefix_append _ _⟩

theorem settle_stream : r.settle.delivered ++ r.settle.q = r.delivered ++ r.q := by
  rcases settle_cases r with ⟨h, _⟩ | ⟨u, rest, _, hq, h⟩ <;> rw [h]
  rw [hq, List.append_assoc]; rfl

theorem done_progress : Progress r r.done := by
  unfold Rd.done
  split
  · have h := settle_progress { r with infl := none }
    exact ⟨h.id, h.written, h.discarded, h.delivered⟩
  · exact .refl r

theorem fail_progress : Progress r r.fail := by
  unfold Rd.fail
  split <;> exact ⟨rfl, rfl, rfl, List.prefix_refl _⟩

theorem remove_progress : Progress r r.remove := by
  unfold Rd.remove
  split <;> exact ⟨rfl, rfl, rfl, List.prefix_refl _⟩

theorem push_weak : (r.push u).id = r.id ∧ r.delivered <+: (r.push u).delivered := by
  rcases push_cases r u with ⟨_, h⟩ | ⟨_, ⟨_, h⟩ | ⟨_, h⟩⟩ <;> rw [h]
  · exact ⟨rfl, List.prefix_refl _⟩
  · have p := settle_progress { r with written := r.written ++ [u], q := r.q ++ [u] }
    exact ⟨p.id, p.delivered⟩
  · exact ⟨rfl, List.prefix_refl _⟩

/-- the goroutine's pull re-establishes quiescence -/
theorem rinv_settle {r : Rd} (h : RCore r) : RInv r.settle := by
  rcases settle_cases r with ⟨hs, hq⟩ | ⟨u, rest, hi, hq, hs⟩ <;> rw [hs]
  · exact ⟨h, hq⟩
  · have hsub := h.sub
    have ha := h.acct
    have hb := h.bound
    rw [hq] at hsub ha hb
    have hatt : r.attached = true := by
      simp only [Rd.idle, Bool.and_eq_true] at hi
      exact hi.1.1
    refine ⟨⟨by simpa using hsub, ?_, h.subs, Nat.le_of_succ_le hb, fun hd => ?_, h.noDrop⟩,
      fun hi' => by simp [Rd.idle] at hi'⟩
    · simp only [List.length_append, List.length_cons, List.length_nil] at ha ⊢
      omega
    · rw [hatt] at hd; cases hd

theorem rinv_push {r : Rd} (h : RInv r) (u : U) : RInv (r.push u) := by
  have hc := h.core
  rcases push_cases r u with ⟨_, hp⟩ | ⟨hsub, ⟨hlt, hp⟩ | ⟨hge, hp⟩⟩ <;> rw [hp]
  · exact h
  all_goals
    obtain ⟨hatt, hs⟩ := Bool.and_eq_true_iff.mp hsub
    have hsubs : ∀ x ∈ r.written ++ [u], r.subs.contains x.fmt = true :=
      List.forall_mem_append.mpr ⟨hc.subs, List.forall_mem_singleton.mpr hs⟩
    have hdet : ∀ {P : Prop}, r.attached = false → P := fun hd => by rw [hatt] at hd; cases hd
  · refine rinv_settle ⟨?_, ?_, hsubs, ?_, hdet, hc.noDrop⟩
    · rw [← List.append_assoc]
      exact hc.sub.append (List.Sublist.refl _)
    · have := hc.acct
      simp only [List.length_append, List.length_cons, List.length_nil] at this ⊢
      omega
    · simp only [List.length_append, List.length_cons, List.length_nil]
      omega
  · refine ⟨⟨hc.sub.trans (List.sublist_append_left _ _), ?_, hsubs, hc.bound, hdet, hc.noDrop⟩, h.idleEmpty⟩
    have := hc.acct
    simp only [List.length_append, List.length_cons, List.length_nil] at this ⊢
    omega

theorem rinv_done {r : Rd} (h : RInv r) : RInv r.done := by
  unfold Rd.done
  split
  · exact rinv_settle { h.core with detached := fun hd => ⟨(h.core.detached hd).1, rfl⟩ }
  · exact h

theorem rinv_fail {r : Rd} (h : RInv r) : RInv r.fail := by
  unfold Rd.fail
  split
  · exact ⟨{ h.core with detached := fun hd => ⟨(h.core.detached hd).1, rfl⟩ }, fun hi => by simp [Rd.idle] at hi⟩
  · exact h

theorem rinv_remove {r : Rd} (h : RInv r) : RInv r.remove := by
  unfold Rd.remove
  split
  · have hc := h.core
    refine ⟨⟨?_, ?_, hc.subs, Nat.zero_le _, fun _ => ⟨rfl, rfl⟩, nofun⟩, fun _ => rfl⟩
    · rw [List.append_nil]
      exact (List.sublist_append_left _ _).trans hc.sub
    · have := hc.acct
      have := hc.noDrop ‹_›
      show r.written.length = r.delivered.length + r.discarded + 0 + (r.dropped + r.q.length)
      omega
  · exact h

/-- a removed reader is frozen: no event changes anything about it -/
theorem push_frozen (h : r.attached = false) : r.push u = r := by
  unfold Rd.push; rw [h]; rfl
theorem done_frozen (h : r.infl = none) : r.done = r := by unfold Rd.done; rw [h]; rfl
theorem fail_frozen (h : r.infl = none) : r.fail = r := by unfold Rd.fail; rw [h]; rfl
theorem remove_frozen (h : r.attached = false) : r.remove = r := by unfold Rd.remove; rw [h]; rfl

end

/-- what an event does to an existing reader -/
def evFun : Ev → Rd → Rd
  | .add _ _ => id
  | .write f tag data => fun r => r.push ⟨f, tag, data⟩
  | .done i => fun r => if r.id == i then r.done else r
  | .fail i => fun r => if r.id == i then r.fail else r
  | .remove i => fun r => if r.id == i then r.remove else r

theorem step_pointwise (s : St) (ev : Ev) :
    ∃ fresh, (step s ev).rds = s.rds.map (evFun ev) ++ fresh ∧ ∀ r ∈ fresh, RInv r := by
  cases ev with
  | add i subs =>
    simp only [step, evFun, List.map_id]
    split
    · exact ⟨[], (List.append_nil _).symm, List.forall_mem_nil _⟩
    · exact ⟨_, rfl, fun r hr => by rw [List.mem_singleton.mp hr]; exact rinv_fresh _ _ _⟩
  | _ => exact ⟨[], (List.append_nil _).symm, List.forall_mem_nil _⟩

theorem rinv_evFun {r : Rd} (h : RInv r) (ev : Ev) : RInv (evFun ev r) := by
  cases ev with
  | add => exact h
  | write f tag data => exact rinv_push h _
  | done i => show RInv (if _ then _ else _); split; exact rinv_done h; exact h
  | fail i => show RInv (if _ then _ else _); split; exact rinv_fail h; exact h
  | remove i => show RInv (if _ then _ else _); split; exact rinv_remove h; exact h

def Inv (s : St) : Prop := ∀ r ∈ s.rds, RInv r

theorem inv_step {s : St} (h : Inv s) (ev : Ev) : Inv (step s ev) := by
  obtain ⟨fresh, hf, hfresh⟩ := step_pointwise s ev
  intro r hr
  rw [hf] at hr
  rcases List.mem_append.mp hr with hr | hr
  · obtain ⟨r0, hr0, rfl⟩ := List.mem_map.mp hr
    exact rinv_evFun (h r0 hr0) ev
  · exact hfresh r hr

theorem inv_run {s : St} (h : Inv s) (evs : List Ev) : Inv (run s evs) := by
  induction evs generalizing s with
  | nil => exact h
  | cons e r ih => exact ih (inv_step h e)

def init (cap : Nat) : St := { cap := cap }

theorem inv_init (cap : Nat) : Inv (init cap) := by intro r hr; simp [init] at hr

theorem inv_reach (cap : Nat) (evs : List Ev) : Inv (run (init cap) evs) := inv_run (inv_init cap) evs

/-- **order**: what a reader has been handed is a subsequence, in write order, of what was written to
its subscribed formats while it was attached. -/
theorem order (cap : Nat) (evs : List Ev) (r : Rd) (hr : r ∈ (run (init cap) evs).rds) :
    r.delivered.Sublist r.written :=
  List.Sublist.trans (List.sublist_append_left _ _) (inv_reach cap evs r hr).core.sub

/-- **at most once**: distinct written units are never delivered twice. -/
theorem at_most_once (cap : Nat) (evs : List Ev) (r : Rd) (hr : r ∈ (run (init cap) evs).rds)
    (hd : r.written.Nodup) : r.delivered.Nodup :=
  List.Pairwise.sublist (order cap evs r hr) hd

/-- **only subscribed**: every delivered unit belongs to a format the reader subscribed to. -/
theorem only_subscribed (cap : Nat) (evs : List Ev) (r : Rd) (hr : r ∈ (run (init cap) evs).rds)
    (u : U) (hu : u ∈ r.delivered) : r.subs.contains u.fmt = true :=
  (inv_reach cap evs r hr).core.subs u ((order cap evs r hr).subset hu)

/-- **accounting**: every unit written to the reader is delivered, counted as discarded, still queued,
or was queued when the reader was removed (nothing is lost silently while attached); the queue never
exceeds the configured size. -/
theorem accounting (cap : Nat) (evs : List Ev) (r : Rd) (hr : r ∈ (run (init cap) evs).rds) :
    r.written.length = r.delivered.length + r.discarded + r.q.length + r.dropped ∧ r.q.length ≤ r.cap ∧
    (r.attached = true → r.dropped = 0) :=
  ⟨(inv_reach cap evs r hr).core.acct, (inv_reach cap evs r hr).core.bound,
   (inv_reach cap evs r hr).core.noDrop⟩

/-- an accepted unit is handed over as soon as the reader is free -/
theorem no_backlog_when_idle (cap : Nat) (evs : List Ev) (r : Rd) (hr : r ∈ (run (init cap) evs).rds)
    (hi : r.idle = true) : r.q = [] :=
  (inv_reach cap evs r hr).idleEmpty hi

theorem evFun_progress (ev : Ev) (r : Rd) (hw : ∀ f tag data, ev ≠ .write f tag data) : Progress r (evFun ev r) := by
  cases ev with
  | add => exact .refl r
  | write f tag data => exact absurd rfl (hw f tag data)
  | done i => exact ite_progress (done_progress r)
  | fail i => exact ite_progress (fail_progress r)
  | remove i => exact ite_progress (remove_progress r)

theorem evFun_weak (ev : Ev) (r : Rd) : (evFun ev r).id = r.id ∧ r.delivered <+: (evFun ev r).delivered := by
  cases ev with
  | write f tag data => exact push_weak r _
  | _ => exact ⟨(evFun_progress _ r (by nofun)).id, (evFun_progress _ r (by nofun)).delivered⟩

/-- deliveries are never retracted or reordered by later events -/
theorem delivered_grows (ev : Ev) (r : Rd) : r.delivered <+: (evFun ev r).delivered :=
  (evFun_weak ev r).2

/-- the ghost field `written` is exactly: the units written to a subscribed format while attached -/
theorem written_is_history (ev : Ev) (r : Rd) :
    (evFun ev r).written =
      match ev with
      | .write f tag data => if r.attached && r.subs.contains f then r.written ++ [⟨f, tag, data⟩] else r.written
      | _ => r.written := by
  cases ev with
  | write f tag data =>
    show (r.push ⟨f, tag, data⟩).written = if r.attached && r.subs.contains f then _ else _
    rcases push_cases r ⟨f, tag, data⟩ with ⟨hc, h⟩ | ⟨hc, ⟨_, h⟩ | ⟨_, h⟩⟩ <;> rw [h]
    · rw [if_neg (Bool.eq_false_iff.mp hc)]
    · rw [if_pos hc]; exact (settle_progress _).written
    · rw [if_pos hc]
  | _ => exact (evFun_progress _ r (by nofun)).written

/-- **skip only when full, and every skip is counted**: the discard counter of a reader changes only in
a step that writes a unit to one of its subscribed formats while its queue holds `cap` units; it then
grows by exactly one and that unit is not delivered.  Conversely a unit written to a subscribed format
of an attached reader whose queue is not full is accepted. -/
theorem skip_only_when_full (cap : Nat) (evs : List Ev) (r : Rd) (hr : r ∈ (run (init cap) evs).rds)
    (ev : Ev) :
    ((evFun ev r).discarded ≠ r.discarded →
      ∃ f tag data, ev = .write f tag data ∧ r.attached = true ∧ r.subs.contains f = true ∧ r.q.length = r.cap ∧
        (evFun ev r).discarded = r.discarded + 1 ∧ (evFun ev r).delivered = r.delivered ∧
        (evFun ev r).q = r.q) ∧
    (∀ f tag data, ev = .write f tag data → r.attached = true → r.subs.contains f = true → r.q.length < r.cap →
      (evFun ev r).discarded = r.discarded ∧
      (evFun ev r).delivered ++ (evFun ev r).q = r.delivered ++ r.q ++ [⟨f, tag, data⟩]) := by
  have hb := (inv_reach cap evs r hr).core.bound
  cases ev with
  | write f tag data =>
    rw [show evFun (.write f tag data) r = r.push ⟨f, tag, data⟩ from rfl]
    rcases push_cases r ⟨f, tag, data⟩ with ⟨hc, h⟩ | ⟨hc, ⟨hlt, h⟩ | ⟨hge, h⟩⟩ <;> rw [h]
    · refine ⟨fun hne => absurd rfl hne, fun f' tag' data' he ha hs _ => ?_⟩
      cases he
      rw [ha, hs] at hc
      cases hc
    · refine ⟨fun hne => absurd (settle_progress _).discarded hne, fun f' tag' data' he _ _ _ => ?_⟩
      cases he
      exact ⟨(settle_progress _).discarded, (settle_stream _).trans (List.append_assoc ..).symm⟩
    · obtain ⟨ha, hs⟩ := Bool.and_eq_true_iff.mp hc
      refine ⟨fun _ => ⟨f, tag, data, rfl, ha, hs, by omega, rfl, rfl, rfl⟩, fun f' tag' data' he _ _ hlt => ?_⟩
      cases he
      exact absurd hlt hge
  | _ => exact ⟨fun hne => absurd (evFun_progress _ r (by nofun)).discarded hne, nofun⟩

theorem evFun_frozen (ev : Ev) (r : Rd) (ha : r.attached = false) (hi : r.infl = none) :
    evFun ev r = r := by
  cases ev with
  | add i subs => rfl
  | write f tag data => exact push_frozen _ _ ha
  | done i => show (if _ then _ else _) = r; split; exact done_frozen _ hi; rfl
  | fail i => show (if _ then _ else _) = r; split; exact fail_frozen _ hi; rfl
  | remove i => show (if _ then _ else _) = r; split; exact remove_frozen _ ha; rfl

theorem get_step (s : St) (ev : Ev) (i : Nat) (r : Rd) (h : get s i = some r) :
    get (step s ev) i = some (evFun ev r) := by
  obtain ⟨fresh, hf, _⟩ := step_pointwise s ev
  unfold get at h ⊢
  rw [hf, List.find?_append, List.find?_map]
  have : ((fun x : Rd => x.id == i) ∘ evFun ev) = (fun x : Rd => x.id == i) := by
    funext x; simp [(evFun_weak ev x).1]
  rw [this, h]; rfl

theorem get_frozen (s : St) (evs : List Ev) (i : Nat) (r : Rd) (h : get s i = some r)
    (ha : r.attached = false) (hi : r.infl = none) : get (run s evs) i = some r := by
  induction evs generalizing s with
  | nil => exact h
  | cons e rest ih =>
    apply ih
    have := get_step s e i r h
    rw [evFun_frozen e r ha hi] at this
    exact this

theorem run_append (s : St) (a b : List Ev) : run s (a ++ b) = run (run s a) b := by
  simp [run, List.foldl_append]

/-- **silent after remove**: once `RemoveReader` has returned, nothing about the reader changes any more —
no callback is entered (its `delivered` list is final), nothing is counted, whatever happens next. -/
theorem silent_after_remove (cap : Nat) (evs1 evs2 : List Ev) (i : Nat) (r : Rd)
    (h : get (run (init cap) (evs1 ++ [.remove i])) i = some r) :
    r.attached = false ∧ r.infl = none ∧ r.q = [] ∧
    get (run (init cap) (evs1 ++ [.remove i] ++ evs2)) i = some r := by
  have hinv := inv_reach cap (evs1 ++ [.remove i])
  have hr : r ∈ (run (init cap) (evs1 ++ [.remove i])).rds := List.mem_of_find?_eq_some h
  have hri : r.id = i := by simpa using List.find?_some h
  -- the reader is the image under `remove` of a reader of the state before
  have ha : r.attached = false := by
    rw [run_append] at hr
    obtain ⟨r0, _, rfl⟩ := List.mem_map.mp hr
    by_cases hid : (r0.id == i) = true
    · rw [if_pos hid]
      unfold Rd.remove
      split
      · rfl
      · exact Bool.eq_false_iff.mpr ‹_›
    · rw [if_neg hid] at hri
      exact absurd (beq_iff_eq.mpr hri) hid
  have hd := (hinv r hr).core.detached ha
  exact ⟨ha, hd.2, hd.1, by rw [run_append]; exact get_frozen _ evs2 i r h ha hd.2⟩

/-- **only the current publisher**: a unit reaches the readers only if the sub stream that wrote it is the
current one at the moment the write takes effect — in particular a write that starts while the replacement is
already waiting for the stream lock is never delivered. -/
theorem only_current_publisher (s : PubSt) (ev : PubEv) (tag : Nat) (h : (pubStep s ev).2 = some tag) :
    (∃ p, ev = .write p tag ∧ p = s.cur) ∨ (∃ p, ev = .race p tag ∧ p = (pubStep s ev).1.cur) := by
  cases ev with
  | pub => simp [pubStep] at h
  | write p t =>
    simp only [pubStep] at h
    split at h
    · rename_i hp; cases h; exact Or.inl ⟨p, rfl, by simpa using hp⟩
    · cases h
  | race p t =>
    simp only [pubStep] at h
    split at h
    · rename_i hp; cases h; exact Or.inr ⟨p, rfl, by simpa [pubStep] using hp⟩
    · cases h

theorem replaced_publisher_silent (s : PubSt) (p tag : Nat) (h : p ≤ s.cur) :
    (pubStep s (.race p tag)).2 = none := by
  simp [pubStep]; omega

/-- **a new publisher starts clean**: whatever the previous publisher left incomplete, the first unit after a
take-over is the new publisher's priming unit alone, and nothing is pending. -/
theorem new_publisher_starts_clean (s : RtpSt) :
    (rtpStep s .pubr).2 = some [65535] ∧ (rtpStep s .pubr).1.pending = [] := ⟨rfl, rfl⟩

/-- a delivered unit ends with the tag just sent by the CURRENT publisher and otherwise holds what that same
publisher collected since its last marker -/
theorem rtp_unit_of_current (s : RtpSt) (p tag : Nat) (m : Bool) (au : List Nat)
    (h : (rtpStep s (.rtp p tag m)).2 = some au) : s.cur = some p ∧ m = true ∧ au = s.pending ++ [tag] := by
  simp only [rtpStep] at h
  split at h
  · rename_i hc
    split at h
    · rename_i hm; cases h; exact ⟨by simpa using hc, hm, rfl⟩
    · cases h
  · cases h

def exRun := run (init 1) [.add 0 [0], .add 1 [1], .write 0 10 [], .write 0 11 [], .write 0 12 [], .write 1 13 [],
  .done 0, .remove 0, .write 0 14 []]

-- reader 0: unit 10 handed over at once, 11 queued, 12 skipped (queue of 1 full) and counted,
-- after `done` 11 is handed over; after `remove` nothing more
example : ((get exRun 0).map fun r => (r.delivered.map (·.tag), r.discarded, r.attached)) =
    some ([10, 11], 1, false) := by decide
example : ((get exRun 1).map fun r => (r.delivered.map (·.tag), r.discarded)) = some ([13], 0) := by decide

-- MPEG-4 Video (format 3): tag 4 carries configuration 2 in-band, tag 5 starts with a GOV and must be delivered
-- with that configuration in front (C22's model), tag 7 is a plain VOP and passes unaltered
example : (C22.stepM4V [] (writtenM4V 4)) = ([0, 0, 1, 0xB0, 2], writtenM4V 4) := by decide
example : (C22.stepM4V [0, 0, 1, 0xB0, 2] (writtenM4V 5)).2 = [0, 0, 1, 0xB0, 2] ++ writtenM4V 5 := by decide
example : (C22.stepM4V [0, 0, 1, 0xB0, 2] (writtenM4V 7)).2 = writtenM4V 7 := by decide

end MtxVerif.C17
