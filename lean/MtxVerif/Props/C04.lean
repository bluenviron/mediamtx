/-
C04 — administrative HTTP endpoints enforce their permission.  Property theorems.

`admin_endpoints_enforce_permission` is the property at full strength: for EVERY route of the table
regenerated from the source, every authentication manager, every handler / unknown middleware (arbitrary
functions) and every request.  The generic theorems (`mw_chain_eq`, `guarded_eq`, `preflight_no_data`) hold
for all chains of the two shapes, any length; `chainFor_run` instantiates them for a well-shaped route.
-/
import MtxVerif.Model.C04
import MtxVerif.Gen.C04
import MtxVerif.Lemmas.C03C04IteNone

namespace MtxVerif.C04

theorem run_aborted (hs : List Handler) (r : Req) (c : Ctx) (h : c.aborted = true) : run hs r c = c := by
  cases hs with
  | nil => rfl
  | cons x xs => simp [run, h]

theorem run_cons (x : Handler) (hs : List Handler) (r : Req) (c : Ctx) (h : c.aborted = false) :
    run (x :: hs) r c = run hs r (x r c) := by
  simp [run, h]

/-- CORS preflight: whatever follows the preflight middleware (even a chain WITHOUT authentication), the
    response is 204 with the two literal headers appended, and body and effects are untouched. -/
theorem preflight_no_data (hs : List Handler) (r : Req) (c : Ctx) (hp : r.preflight = true)
    (hc : c.aborted = false) :
    run (preflightMw :: hs) r c =
      { c with aborted := true, status := 204, hdrs := c.hdrs ++ [.allowMethods, .allowHeaders] } := by
  rw [run_cons _ _ _ _ hc]
  simp only [preflightMw, hp, if_true]
  exact run_aborted _ _ _ rfl

theorem preflight_passes (hs : List Handler) (r : Req) (c : Ctx) (hp : r.preflight = false)
    (hc : c.aborted = false) : run (preflightMw :: hs) r c = run hs r c := by
  rw [run_cons _ _ _ _ hc]
  simp [preflightMw, hp]

theorem denyWith_aborted (ask : Bool) (c : Ctx) : (denyWith ask c).aborted = true := rfl

theorem authStep_eq (auth : AuthFn) (a : Action) (wp : Bool) (r : Req) (c : Ctx) (k : Ctx → Ctx) :
    authStep auth a wp r c k =
      if auth (mkAuthReq a wp r) = .ok then k c else denyWith (auth (mkAuthReq a wp r) == .denyAsk) c := by
  unfold authStep
  cases auth (mkAuthReq a wp r) <;> rfl

/-- shape A, `[preflight, auth] ++ handlers` (api, metrics, pprof): handlers behind the auth middleware
    have NO influence on the response to a client that is not admitted, and an admitted client reaches
    them with an untouched context. -/
theorem mw_chain_eq (auth : AuthFn) (a : Action) (hs : List Handler) (r : Req) (hp : r.preflight = false) :
    run (preflightMw :: authMw auth a :: hs) r {} =
      if auth (mkAuthReq a false r) = .ok then run hs r {}
      else denyWith (auth (mkAuthReq a false r) == .denyAsk) {} := by
  rw [preflight_passes _ _ _ hp rfl, run_cons _ _ _ _ rfl, authMw, authStep_eq]
  split
  · rfl
  · exact run_aborted _ _ _ rfl

/-- handler output present ⇒ the auth manager admitted the request for the middleware's action. -/
theorem handler_runs_only_if_admitted (auth : AuthFn) (a : Action) (hs : List Handler) (r : Req)
    (hout : (run ([preflightMw, authMw auth a] ++ hs) r {}).carriesData = true ∨
            (run ([preflightMw, authMw auth a] ++ hs) r {}).changesState = true) :
    r.preflight = false ∧ auth (mkAuthReq a false r) = .ok := by
  rw [show [preflightMw, authMw auth a] ++ hs = preflightMw :: authMw auth a :: hs from rfl] at hout
  cases hp : r.preflight with
  | true =>
    rw [preflight_no_data _ r {} hp rfl] at hout
    simp [Ctx.carriesData, Ctx.changesState] at hout
  | false =>
    refine ⟨rfl, Decidable.by_contra fun ha => ?_⟩
    rw [mw_chain_eq auth a hs r hp, if_neg ha] at hout
    simp [denyWith, Ctx.carriesData, Ctx.changesState, Chunk.isData] at hout

/-- shape B, `[preflight, guarded handler]` (playback) -/
theorem guarded_eq (auth : AuthFn) (a : Action) (wp : Bool) (inner : Handler) (r : Req)
    (hp : r.preflight = false) :
    run [preflightMw, guardedHandler auth a wp inner] r {} =
      if r.validPath = false then { aborted := true, status := 400, body := [.badPath] }
      else if auth (mkAuthReq a wp r) = .ok then inner r {}
      else denyWith (auth (mkAuthReq a wp r) == .denyAsk) {} := by
  rw [preflight_passes _ _ _ hp rfl, run_cons _ _ _ _ rfl, guardedHandler, authStep_eq]
  cases r.validPath <;> rfl

theorem refusal_no_data (auth : AuthFn) (s : Srv) (r : Req) :
    (refusal auth s r).carriesData = false ∧ (refusal auth s r).changesState = false := by
  unfold refusal
  cases r.preflight
  · cases s == .playback && !r.validPath <;> simp [denyWith, Ctx.carriesData, Ctx.changesState, Chunk.isData]
  · simp [Ctx.carriesData, Ctx.changesState]

/-- not a preflight, and (playback) a well-formed path name: the refusal is 401 with the constant body;
    `WWW-Authenticate` exactly when the manager asks for credentials. -/
theorem refusal_is_401 (auth : AuthFn) (s : Srv) (r : Req) (hp : r.preflight = false)
    (hv : s ≠ .playback ∨ r.validPath = true) :
    (refusal auth s r).status = 401 ∧ (refusal auth s r).body = [.authError] ∧
    ((refusal auth s r).hdrs.contains .wwwAuthenticate =
       (auth (mkAuthReq s.action (s == .playback) r) == .denyAsk)) := by
  have h2 : (s == .playback && !r.validPath) = false := by
    rcases hv with h | h <;> simp [h]
  unfold refusal
  rw [hp, h2]
  cases auth (mkAuthReq s.action (s == .playback) r) <;> simp [denyWith]

theorem refusal_preflight (auth : AuthFn) (s : Srv) (r : Req) (hp : r.preflight = true) :
    (refusal auth s r).status = 204 ∧ (refusal auth s r).body = [] ∧ (refusal auth s r).effects = [] := by
  unfold refusal; rw [hp]; simp

/-- every server found in the source has the shape the theorems need, uses the action constant the property
    names, denies by abort + constant body, and its router variables are used in no other way. -/
theorem gen_servers_ok : ∀ f ∈ Gen.C04.servers, serverOK f = true := by decide +kernel

/-- all four servers are present in the table -/
theorem gen_servers_complete : Gen.C04.servers.map (·.srv) = [.api, .metrics, .pprof, .playback] := by
  decide +kernel

theorem chainFor_run (auth : AuthFn) (f : ServerF) (rt : RouteF) (other inner : Handler) (r : Req)
    (hf : serverOK f = true) (hr : rt ∈ f.routes) :
    run (chainFor auth f rt other inner) r {} =
      if r.preflight = false ∧ Admitted auth f.srv r = true then inner r {} else refusal auth f.srv r := by
  simp only [serverOK, Bool.and_eq_true, decide_eq_true_eq, List.all_eq_true] at hf
  obtain ⟨⟨⟨⟨hact, _⟩, _⟩, _⟩, hall⟩ := hf
  have hrt := hall rt hr
  unfold routeOK at hrt
  unfold chainFor refusal Admitted
  rw [hact]
  split at hrt
  · -- playback: [preflight] → guarded handler
    rename_i hs
    simp only [Bool.and_eq_true, beq_iff_eq] at hrt
    obtain ⟨⟨hm, hg⟩, hwp⟩ := hrt
    simp only [hm, hg, hwp, hs, List.map, List.nil_append, List.cons_append, if_true]
    cases hp : r.preflight with
    | true => simp [preflight_no_data _ r {} hp rfl]
    | false =>
      rw [guarded_eq auth _ _ inner r hp]
      cases r.validPath <;> simp
  · -- api / metrics / pprof: [preflight, auth] → handler
    rename_i hs
    simp only [Bool.and_eq_true, beq_iff_eq, Bool.not_eq_true'] at hrt
    obtain ⟨hm, hg⟩ := hrt
    have hpb : (f.srv == Srv.playback) = false := by simpa using hs
    simp only [hm, hg, hpb, List.map, List.nil_append, List.cons_append, Bool.false_eq_true, if_false]
    cases hp : r.preflight with
    | true => simp [preflight_no_data _ r {} hp rfl]
    | false =>
      rw [mw_chain_eq auth _ [inner] r hp]
      simp [run, bne, hpb]

/-- an admitted client reaches the handler with an untouched context. -/
theorem chainFor_admits (auth : AuthFn) (f : ServerF) (rt : RouteF) (other inner : Handler) (r : Req)
    (hf : serverOK f = true) (hr : rt ∈ f.routes)
    (hp : r.preflight = false) (ha : Admitted auth f.srv r = true) :
    run (chainFor auth f rt other inner) r {} = inner r {} := by
  rw [chainFor_run auth f rt other inner r hf hr, if_pos ⟨hp, ha⟩]

/-- **C04, full strength.**  For every route registered by the four servers (table regenerated from the
    source), every authentication manager, every handler and every request:
    * the response carries handler data or a state change happened ⇒ the request is not a preflight and the
      manager admitted it for the server's action (playback: with the requested path, which is well-formed);
    * not admitted (and not a preflight) ⇒ the response is the constant refusal: 401 + constant body, except
      playback's 400 for a malformed path name, which is constant as well;
    * preflight ⇒ 204 without body. -/
theorem admin_endpoints_enforce_permission (auth : AuthFn) (other inner : Handler) :
    ∀ f ∈ Gen.C04.servers, ∀ rt ∈ f.routes, ∀ r : Req,
      let out := run (chainFor auth f rt other inner) r {}
      ((out.carriesData = true ∨ out.changesState = true) →
          r.preflight = false ∧ Admitted auth f.srv r = true) ∧
      (r.preflight = false → Admitted auth f.srv r = false →
          out = refusal auth f.srv r ∧
          ((f.srv ≠ .playback ∨ r.validPath = true) → out.status = 401 ∧ out.body = [.authError])) ∧
      (r.preflight = true → out.status = 204 ∧ out.body = [] ∧ out.effects = []) := by
  intro f hf rt hrt r
  simp only [chainFor_run auth f rt other inner r (gen_servers_ok f hf) hrt]
  refine ⟨fun hout => ?_, fun hp ha => ?_, fun hp => ?_⟩
  · split at hout
    · assumption
    · have := refusal_no_data auth f.srv r
      rw [this.1, this.2] at hout
      simp at hout
  · rw [if_neg (by simp [ha])]
    exact ⟨rfl, fun hv => ⟨(refusal_is_401 auth f.srv r hp hv).1, (refusal_is_401 auth f.srv r hp hv).2.1⟩⟩
  · rw [if_neg (by simp [hp])]
    exact refusal_preflight auth f.srv r hp

/-- the spec accepts the model's own refusal (so a spec FAIL is a deviation from the proved behaviour) -/
theorem spec_accepts_refusal (auth : AuthFn) (s : Srv) (routed : Bool) (r : Req)
    (hn : r.preflight = true ∨ Admitted auth s r = false) :
    specObs s routed r (auth (mkAuthReq s.action (s == .playback) r)) (observe (refusal auth s r)) = none := by
  have hnd := refusal_no_data auth s r
  cases hp : r.preflight with
  | true =>
    have h204 := refusal_preflight auth s r hp
    simp [specObs, hp, observe, hnd, h204.1, h204.2.1]
  | false =>
    have ha : ((s != Srv.playback || r.validPath) &&
        auth (mkAuthReq s.action (s == Srv.playback) r) == AuthRes.ok) = false :=
      hn.resolve_left (by simp [hp])
    by_cases hv : s ≠ .playback ∨ r.validPath = true
    · have h401 := refusal_is_401 auth s r hp hv
      simp [specObs, hp, ha, observe, hnd, h401.1, h401.2.1]
    · -- playback with a malformed path name: the constant 400
      have hv' : (s != Srv.playback || r.validPath) = false := by simpa using hv
      have : (refusal auth s r).status = 400 := by
        simp only [not_or, Decidable.not_not, Bool.not_eq_true] at hv
        simp [refusal, hp, hv.1, hv.2]
      simp [specObs, hp, observe, hnd, hv', this]

/-- a response the spec accepts for a request that is not admitted carries no canary, changed no state and
    is not a success; on a registered route it is the 401 constant. -/
theorem spec_sound (s : Srv) (routed : Bool) (r : Req) (res : AuthRes) (o : Obs)
    (hp : r.preflight = false) (hn : ((s != .playback || r.validPath) && res == .ok) = false)
    (hs : specObs s routed r res o = none) :
    o.canary = false ∧ o.changed = false ∧ ¬ (200 ≤ o.status ∧ o.status < 300) ∧
    (routed = true → (s ≠ .playback ∨ r.validPath = true) → o.status = 401 ∧ o.body = .authErr) := by
  simpa [specObs, hp, hn, ite_eq_none] using hs
/-! #### non-vacuity -/

/-- a manager that admits exactly the user `admin` for `api`; a handler that returns data and changes state -/
example :
    let auth : AuthFn := fun q => if q.action = .api ∧ q.creds.user = asc ['a'] then .ok else .denyAsk
    let h : Handler := fun _ c => { c with body := c.body ++ [.data 7], effects := [1] }
    let good : Req := ⟨false, false, ⟨asc ['a'], [], []⟩, [], [], [], true⟩
    let anon : Req := ⟨false, false, ⟨[], [], []⟩, [], [], [], true⟩
    (run ([preflightMw, authMw auth .api] ++ [h]) good {}).carriesData = true ∧
    (run ([preflightMw, authMw auth .api] ++ [h]) anon {}) = denyWith true {} ∧
    (run ([preflightMw, authMw auth .metrics] ++ [h]) good {}).status = 401 := by decide +kernel

/-- without the auth middleware in front, the same handler would answer anybody: the shape matters -/
example :
    let h : Handler := fun _ c => { c with body := c.body ++ [.data 7] }
    let anon : Req := ⟨false, false, ⟨[], [], []⟩, [], [], [], true⟩
    (run ([preflightMw] ++ [h]) anon {}).carriesData = true := by decide +kernel

end MtxVerif.C04
