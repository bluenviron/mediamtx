/-
C32 — MoQ wire codecs round-trip and reject malformed input safely.  Property theorems.

"Every MoQ varint, namespace, parameter list, property list, control message and subgroup stream the
server encodes is decoded back to the same value, and decoding arbitrary bytes either fails or
succeeds without panicking and without allocating more than the protocol limits."

* round trip  : `*_roundtrip`, for every value within the protocol limits (`wf…`), any trailing bytes;
* no panic    : `decoders_total`, for every byte string (the `panic` outcome covers slice/index out
                of range and loops without progress);
* allocation  : `alloc_bounded_stream` (a constant per control message / subgroup stream) and
                `alloc_bounded_buffer` (`≤ 128·|input| + B`), for every byte string;
* tie to the source: `all_makes_guarded`, `limits_match` over the regenerated Gen/C32.lean.
-/
import MtxVerif.Lemmas.C32Moq
import MtxVerif.Gen.C32

namespace MtxVerif.C32

/-- varint round trip for the whole `uint64` range, both decoders (`Unmarshal`, `Read`) -/
theorem varint_roundtrip (v : Nat) (hv : v < 2 ^ 64) (stream : Bool) (tail : Bytes) :
    (varint stream (encVarint v ++ tail)).r = .ok v tail := varint_rt stream v hv tail

/-- the size table: 7 payload bits per byte up to 8 bytes, 9 bytes beyond 2^56 -/
theorem varint_size_table (v : Nat) :
    (encVarint v).length =
      if v < 2 ^ 7 then 1 else if v < 2 ^ 14 then 2 else if v < 2 ^ 21 then 3 else if v < 2 ^ 28 then 4
      else if v < 2 ^ 35 then 5 else if v < 2 ^ 42 then 6 else if v < 2 ^ 49 then 7
      else if v < 2 ^ 56 then 8 else 9 := by
  rw [encVarint_length]; rfl

/-- a successful varint decode consumed 1…9 bytes -/
theorem varint_decoded_range (stream : Bool) (b : Bytes) (v : Nat) (rest : Bytes)
    (h : (varint stream b).r = .ok v rest) : rest.length < b.length ∧ b.length ≤ rest.length + 9 :=
  (varint_spec stream b).2.2 v rest h

theorem params_roundtrip (ps : Params) (h : wfParams ps = true) (tail : Bytes) :
    (paramsLoop ps.length 0 (encParams ps ++ tail)).r = .ok ps tail :=
  rt_paramsLoop ps 0 (by decide) ((wfParams_iff ps).mp h).2 tail

/-- **totality**: no decoder panics (slice/index out of range, no-progress loop), whatever the bytes
and whatever the (unchecked) parameter count passed to `Parameters.Unmarshal` -/
theorem decoders_total (b : Bytes) :
    (varint false b).r ≠ .panic ∧ (varint true b).r ≠ .panic ∧
    (decNamespace b).r ≠ .panic ∧ (∀ count, (paramsLoop count 0 b).r ≠ .panic) ∧
    (decProps b).r ≠ .panic ∧ (readMsg b).r ≠ .panic ∧
    (readHeader b).r ≠ .panic ∧ (∀ hp, (readObject hp b).r ≠ .panic) ∧
    (readSubGroup b).r ≠ .panic :=
  ⟨Total.varint _ b, Total.varint _ b, total_namespace b, fun c => total_paramsLoop c 0 b,
   total_props b, total_readMsg b, total_readHeader b, fun hp => total_readObject hp b,
   total_readSubGroup b⟩

theorem msgAllocLimit_val : msgAllocLimit = 8454535 := by decide
theorem subGroupAllocLimit_val : subGroupAllocLimit = 54788176 := by decide

/-- stream readers: a constant, whatever the peer sends
(one control message ≤ 8.1 MiB, one subgroup stream ≤ 52.3 MiB; the dominating terms are the
payload limit 10 MiB per object and 128 bytes of decoded structure per payload byte) -/
theorem alloc_bounded_stream (b : Bytes) :
    (readMsg b).alloc ≤ msgAllocLimit ∧ (readSubGroup b).alloc ≤ subGroupAllocLimit ∧
    (readHeader b).alloc ≤ 16 ∧ (∀ hp, (readObject hp b).alloc ≤ objAllocLimit) ∧
    (varint true b).alloc ≤ 8 :=
  ⟨allocC_readMsg b, allocC_readSubGroup b, allocC_readHeader b, fun hp => allocC_readObject hp b,
   AllocC.varint true b⟩

/-- buffer decoders: at most 128 bytes per input byte plus a constant (`make(Namespace, count)` with
`count ≤ 32`); in particular the unchecked 64-bit parameter count cannot cause allocation by itself -/
theorem alloc_bounded_buffer (b : Bytes) :
    (varint false b).alloc = 0 ∧
    (decNamespace b).alloc ≤ 128 * b.length + 16 * maxFieldCount ∧
    (∀ count, (paramsLoop count 0 b).alloc ≤ 128 * b.length) ∧
    (decProps b).alloc ≤ 128 * b.length :=
  ⟨varint_alloc0 b, allocB_namespace.le b, fun c => (allocB_paramsLoop c 0).le b, allocB_props.le b⟩

/-- decoded values respect the limits: a decoded namespace has at most 32 fields, a decoded object at
most 10 MiB of payload -/
theorem decoded_within_limits (b : Bytes) :
    (∀ ns r, (decNamespace b).r = .ok ns r → ns.length ≤ maxFieldCount) ∧
    (∀ p r, (bytesLP maxPayloadSize .pre true b).r = .ok p r → p.length ≤ maxPayloadSize) :=
  ⟨fun ns r h => namespace_le b ns r h, fun p r h => bytesLP_le _ _ _ b p r h⟩

def _root_.MtxVerif.Gen.C32.Guard.bounded : Gen.C32.Guard → Bool
  | .unguarded => false
  | _ => true

/-- every `make(` in internal/protocols/moq has a bounded size: a constant, the size of data already
in memory, a 16-bit field, or a decoded value dominated by an explicit limit check.  A new `make`
sized by an unchecked decoded value makes this `decide` fail. -/
theorem all_makes_guarded : Gen.C32.makeSites.all (fun s => s.guard.bounded) = true := by decide

/-- the makes whose size is a decoded value, with their limits, are exactly the ones the model
accounts for: namespace field count, property block, payload (+ the 16-bit frame, the varint tail) -/
theorem decoded_makes :
    (Gen.C32.makeSites.filterMap fun s => match s.guard with
      | .checked n => some n | .u16 => some 65535 | .switchLit n => some n | _ => none)
    = [maxMsgPayload, maxFieldCount, maxPropsLen, maxPayloadSize, 9] := by decide

/-- the limits and wire constants of the model are the ones in the source -/
theorem limits_match :
    Gen.C32.maxFieldCount = maxFieldCount ∧ Gen.C32.maxPropsLen = maxPropsLen ∧
    Gen.C32.maxPayloadSize = maxPayloadSize ∧
    Gen.C32.objectStatusEndOfGroup = objectStatusEndOfGroup ∧
    Gen.C32.objectStatusEndOfTrack = objectStatusEndOfTrack ∧
    Gen.C32.typeAuthorizationToken = typeAuthorizationToken ∧ Gen.C32.aliasUseValue = aliasUseValue ∧
    Gen.C32.timestampPropertyType = timestampPropertyType ∧
    [Gen.C32.typeSetup, Gen.C32.typeClientSetup, Gen.C32.typeServerSetup, Gen.C32.typeSubscribe,
     Gen.C32.typeSubscribeOk, Gen.C32.typeRequestError, Gen.C32.typePublish, Gen.C32.typePublishOk,
     Gen.C32.typeRequestOk] =
    [typeSetup, typeClientSetup, typeServerSetup, typeSubscribe, typeSubscribeOk, typeRequestError,
     typePublish, typePublishOk, typeRequestOk] ∧
    Gen.C32.setupOptionPath = setupOptionPath ∧ Gen.C32.setupOptionAuthority = setupOptionAuthority := by
  decide

/-! ### finding: the 16-bit frame length is not checked by the encoders

`Marshal()` writes `byte(payloadSize>>8), byte(payloadSize)` whatever `payloadSize` is.  The round
trip of control messages therefore needs `fitsFrame` (payload ≤ 65535), which nothing enforces for
`RequestError{Reason: err.Error()}` built in servers/moq/session.go (the error text embeds the
client-chosen path name). -/

/-- the statement without the frame-size side condition -/
def message_roundtrip_full : Prop :=
  ∀ m : Msg, wfMsgBody m = true → (readMsg (encMsg m)).r = .ok m []

/-- what holds: under the decidable side condition `fitsFrame` -/
theorem message_roundtrip_partial (m : Msg) (hb : wfMsgBody m = true) (hf : fitsFrame m = true) :
    (readMsg (encMsg m)).r = .ok m [] :=
  List.append_nil (encMsg m) ▸ message_roundtrip m (by rw [wfMsg, hb, hf]; rfl) []

/-- REQUEST_ERROR with any 65536-byte reason is emitted with frame length 5 (65541 mod 65536) and
decoded as "not enough bytes" -/
theorem overlongReqErr_decodes_short (reason : Bytes) (hl : reason.length = 65536) :
    (readMsg (encMsg (.requestError ⟨0, reason⟩))).r = .err .short := by
  have e : encMsg (.requestError ⟨0, reason⟩) =
      encVarint 5 ++ (beBytes 2 ([0, 0, 0xC1, 0, 0] : Bytes).length ++ ([0, 0, 0xC1, 0, 0] ++ reason)) := by
    simp [encMsg, Msg.payload, encRequestErrorP, encBytesLP, hl]
    rfl
  rw [e, readMsg_frame 5 _ _ (by decide) (by decide)]
  rfl

def overlongReqErr : Msg := .requestError ⟨0, List.replicate 65536 0x61⟩

theorem message_roundtrip_witness : ¬ message_roundtrip_full := by
  intro h
  have hl : (List.replicate 65536 (0x61 : UInt8)).length = 65536 := List.length_replicate
  have hw : wfMsgBody overlongReqErr = true := by
    simp only [overlongReqErr, wfMsgBody, wfRequestError, hl]; decide
  have := h overlongReqErr hw
  rw [overlongReqErr, overlongReqErr_decodes_short _ hl] at this
  cases this

example : wfMsg (.subscribe ⟨7, [asc ['l','i','v','e']], asc ['0'], [⟨3, 0, asc ['j','w','t']⟩]⟩) = true := by
  decide
example : wfSubGroup ⟨⟨true, true, 1, 2⟩, [⟨0, [1234], asc ['x']⟩]⟩ = true := by decide
example : encVarint 300 = [0x81, 0x2C] := by decide
example : (varint false [0x81, 0x2C, 0xFF]).r.restLen = 1 := by decide
/-- non-canonical encodings are accepted by the decoder (the property speaks of encode→decode only) -/
example : ∃ b, b ≠ encVarint 1 ∧ (∃ r, (varint false b).r = .ok 1 r) :=
  ⟨[0x80, 0x01], by decide, [], by decide⟩

end MtxVerif.C32
