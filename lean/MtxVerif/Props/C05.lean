/-
C05 — CORS allows only configured origins.  Property theorems about `Model/C05`.
-/
import MtxVerif.Model.C05

namespace MtxVerif.C05

theorem mem_tails {s t : Bytes} : t ∈ tails s ↔ t <:+ s := by
  induction s with
  | nil => rw [tails, List.mem_singleton, List.suffix_nil]
  | cons c rest ih => rw [tails, List.mem_cons, ih, List.suffix_cons_iff]

theorem mem_afterDots {s t : Bytes} : t ∈ afterDots s ↔ (46 :: t) <:+ s := by
  induction s with
  | nil => simp [afterDots]
  | cons c rest ih =>
    rw [afterDots, List.suffix_cons_iff, List.cons.injEq, ← ih]
    split
    · rename_i hc; simp [hc]
    · rename_i hc; simp [Ne.symm hc]

theorem mem_afterDots1 {s t : Bytes} : t ∈ afterDots1 s ↔ ∃ pre, pre ≠ [] ∧ s = pre ++ 46 :: t := by
  cases s with
  | nil => simp [afterDots1]
  | cons c rest =>
    rw [afterDots1, mem_afterDots]
    constructor
    · rintro ⟨pre, h⟩; exact ⟨c :: pre, List.cons_ne_nil _ _, by rw [← h]; rfl⟩
    · rintro ⟨_ | ⟨x, pre⟩, hne, h⟩
      · exact absurd rfl hne
      · exact ⟨pre, (List.cons.inj h).2.symm⟩

/-- a literal token consumes exactly that character -/
theorem matchT_lit (c : UInt8) (ts : List Tok) (s : Bytes) :
    matchT (.lit c :: ts) s = true ↔ ∃ s', s = c :: s' ∧ matchT ts s' = true := by
  cases s with
  | nil => simp [matchT]
  | cons x s =>
    rw [matchT, Bool.and_eq_true, beq_iff_eq]
    constructor
    · rintro ⟨rfl, h⟩; exact ⟨s, rfl, h⟩
    · rintro ⟨s', e, h⟩; cases e; exact ⟨rfl, h⟩

/-- every character other than `*` matches literally: a pattern of literals matches exactly itself -/
theorem matchT_lits (p s : Bytes) : matchT (p.map Tok.lit) s = true ↔ s = p := by
  induction p generalizing s with
  | nil => rw [List.map_nil, matchT, List.isEmpty_iff]
  | cons c p ih =>
    rw [List.map_cons, matchT_lit]
    constructor
    · rintro ⟨s', rfl, h⟩; rw [(ih s').mp h]
    · rintro rfl; exact ⟨p, rfl, (ih p).mpr rfl⟩

/-- each `*` stands for any (possibly empty) string -/
theorem matchT_star (ts : List Tok) (s : Bytes) :
    matchT (.star :: ts) s = true ↔ ∃ pre suf, s = pre ++ suf ∧ matchT ts suf = true := by
  rw [matchT, List.any_eq_true]
  constructor
  · rintro ⟨t, ht, hm⟩
    obtain ⟨pre, h⟩ := mem_tails.mp ht
    exact ⟨pre, t, h.symm, hm⟩
  · rintro ⟨pre, suf, h, hm⟩; exact ⟨suf, mem_tails.mpr ⟨pre, h.symm⟩, hm⟩

/-- `*.` stands for nothing at all, or for a non-empty string followed by a dot -/
theorem matchT_optSub (ts : List Tok) (s : Bytes) :
    matchT (.optSub :: ts) s = true ↔
      matchT ts s = true ∨ ∃ pre suf, pre ≠ [] ∧ s = pre ++ 46 :: suf ∧ matchT ts suf = true := by
  rw [matchT, Bool.or_eq_true, List.any_eq_true]
  refine or_congr_right ⟨?_, ?_⟩
  · rintro ⟨t, ht, hm⟩
    obtain ⟨pre, hne, h⟩ := mem_afterDots1.mp ht
    exact ⟨pre, t, hne, h, hm⟩
  · rintro ⟨pre, suf, hne, h, hm⟩; exact ⟨suf, mem_afterDots1.mpr ⟨pre, hne, h⟩, hm⟩

def hasStarDot : Bytes → Bool
  | [] => false
  | [_] => false
  | c :: d :: rest => (c == 42 && d == 46) || hasStarDot (d :: rest)

/-- Without a `*.` the code's pattern is exactly the property's literal reading. -/
theorem tokenize_eq_lit (p : Bytes) (h : hasStarDot p = false) : tokenize p = tokenizeLit p := by
  induction p with
  | nil => rfl
  | cons c rest ih =>
    cases rest with
    | nil => rw [tokenize, tokenizeLit]; split <;> rfl
    | cons d rest =>
      rw [hasStarDot, Bool.or_eq_false_iff] at h
      rw [tokenize, tokenizeLit, ← ih h.2]
      by_cases hc : c = 42
      · have hd : d ≠ 46 := by rintro rfl; subst hc; exact absurd h.1 (by decide)
        rw [if_pos hc, if_neg hd, if_pos hc]
      · rw [if_neg hc, if_neg hc]

theorem isOriginAllowed_cases (origin : Bytes) (o : PURL) (allow : List (Bytes × PURL)) :
    (isOriginAllowed origin o allow = .echo ∧ origin ≠ [] ∧ o.ok = true ∧ o.scheme ≠ [] ∧
        allow.any (fun a => a.2.ok && (exactMatch o a.2 || wildMatch o a.2)) = true) ∨
      isOriginAllowed origin o allow = .none ∨
      (isOriginAllowed origin o allow = .star ∧ allow.any (fun a => a.1 == starBytes) = true) := by
  unfold isOriginAllowed
  generalize allow.any (fun a => a.1 == starBytes) = listed
  -- the answer when no allowed entry admits the origin: `*` if `*` is listed
  have fallback : ∀ r : Res, r = (if listed then .star else .none) → r = .none ∨ r = .star ∧ listed = true := by
    cases listed <;> simp
  by_cases h0 : allow.isEmpty = true
  · exact .inr (.inl (if_pos h0))
  rw [if_neg h0]
  by_cases h1 : origin.isEmpty = true
  · exact .inr (fallback _ (if_pos h1))
  by_cases h2 : (!o.ok || o.scheme.isEmpty) = true
  · exact .inr (.inl (by simp only [h1, h2]; rfl))
  by_cases h3 : allow.any (fun a => a.2.ok && (exactMatch o a.2 || wildMatch o a.2)) = true
  · obtain ⟨hok, hsc⟩ : o.ok = true ∧ o.scheme ≠ [] := by simpa using h2
    exact .inl ⟨by simp only [h1, h2, h3]; rfl, by simpa using h1, hok, hsc, h3⟩
  · exact .inr (fallback _ (by simp only [h1, h2, h3]; rfl))

/-- exact branch: same scheme, same host and same effective port -/
theorem exact_same (o a : PURL) (h : exactMatch o a = true) :
    a.scheme = o.scheme ∧ withDefaultPort a = withDefaultPort o ∧
    portOf (withDefaultPort a) = portOf (withDefaultPort o) := by
  simpa only [exactMatch, Bool.and_eq_true, beq_iff_eq, and_assoc] using h

/-- wildcard branch: same scheme, and `host:port` (port included, so the effective port is matched by the
literal port of the pattern) lies in the language of the allowed entry's pattern -/
theorem wild_same_scheme (o a : PURL) (h : wildMatch o a = true) :
    a.scheme = o.scheme ∧ matchT (tokenize (withDefaultPort a)) (withDefaultPort o) = true := by
  rw [wildMatch, Bool.and_eq_true, Bool.and_eq_true, beq_iff_eq] at h
  exact ⟨h.1.2, h.2⟩

/-- For allowed entries without `*.` the wildcard branch is exactly the property's reading
(`*` = any characters, every other character literal, same scheme). -/
theorem wild_eq_literal (o a : PURL) (h : hasStarDot (withDefaultPort a) = false) :
    wildMatch o a = litWild o a := by
  rw [wildMatch, litWild, tokenize_eq_lit _ h]

/-- `*` is returned only when `*` is listed. -/
theorem star_only_if_listed (origin : Bytes) (o : PURL) (allow : List (Bytes × PURL))
    (h : isOriginAllowed origin o allow = .star) : ∃ a ∈ allow, a.1 = starBytes := by
  rcases isOriginAllowed_cases origin o allow with ⟨e, -⟩ | e | ⟨-, hs⟩
  · rw [e] at h; cases h
  · rw [e] at h; cases h
  · obtain ⟨a, ha, he⟩ := List.any_eq_true.mp hs
    exact ⟨a, ha, beq_iff_eq.mp he⟩

/-- The model never fails the property's executable spec: every answer is either justified by the
property's wording, or lies in the recorded class `optionalSubdomainDot`. -/
theorem model_meets_spec (origin : Bytes) (o : PURL) (allow : List (Bytes × PURL)) :
    spec origin o allow (isOriginAllowed origin o allow) = .ok ∨
    spec origin o allow (isOriginAllowed origin o allow) = .knownOptSub := by
  rcases isOriginAllowed_cases origin o allow with ⟨e, h1, h2, h3, h4⟩ | e | e
  · have hne : origin.isEmpty = false := by simpa using h1
    have hsne : o.scheme.isEmpty = false := by simpa using h3
    rw [e, spec]
    simp only [hne, h2, hsne, Bool.not_true, Bool.or_self, Bool.false_and, Bool.false_eq_true, if_false]
    by_cases hlit : allow.any (fun a => a.2.ok && (specExact o a.2 || litWild o a.2)) = true
    · exact .inl (if_pos hlit)
    · -- the admitting entry admits through its wildcard: an exact match is a match of the property's reading
      obtain ⟨a, ha, hm⟩ := List.any_eq_true.mp h4
      rw [Bool.and_eq_true, Bool.or_eq_true] at hm
      have hw : allow.any (fun a => a.2.ok && wildMatch o a.2) = true := by
        refine List.any_eq_true.mpr ⟨a, ha, ?_⟩
        rcases hm.2 with he | hw
        · have := exact_same o a.2 he
          exact absurd (List.any_eq_true.mpr ⟨a, ha, by simp [hm.1, specExact, this.1, this.2.1]⟩) hlit
        · rw [hm.1, hw]; rfl
      exact .inr (by rw [if_neg hlit, if_pos hw])
  · rw [e]; exact .inl rfl
  · rw [e.1]; exact .inl (if_pos e.2)

theorem ite_ne_left {α : Type} {c : Prop} [Decidable c] {a b d : α} (h : (if c then a else b) = d) (ha : a ≠ d) :
    ¬c ∧ b = d := by
  by_cases hc : c
  · rw [if_pos hc] at h; exact absurd h ha
  · rw [if_neg hc] at h; exact ⟨hc, h⟩

/-- The recorded class only arises from an allowed entry that contains `*.`. -/
theorem known_needs_stardot (origin : Bytes) (o : PURL) (allow : List (Bytes × PURL)) (r : Res)
    (h : spec origin o allow r = .knownOptSub) :
    ∃ a ∈ allow, hasStarDot (withDefaultPort a.2) = true ∧ wildMatch o a.2 = true := by
  -- the verdict is reached only if no entry admits under the property's reading and one does by its wildcard
  have key : allow.any (fun a => a.2.ok && (specExact o a.2 || litWild o a.2)) = false ∧
      allow.any (fun a => a.2.ok && wildMatch o a.2) = true := by
    cases r with
    | none => cases h
    | star => rw [spec] at h; split at h <;> cases h
    | echo =>
      obtain ⟨-, h⟩ := ite_ne_left h (by decide)
      obtain ⟨-, h⟩ := ite_ne_left h (by decide)
      obtain ⟨c3, h⟩ := ite_ne_left h (by decide)
      exact ⟨Bool.not_eq_true _ ▸ c3, Decidable.by_contra fun c4 => by rw [if_neg c4] at h; cases h⟩
  obtain ⟨a, ha, hm⟩ := List.any_eq_true.mp key.2
  rw [Bool.and_eq_true] at hm
  refine ⟨a, ha, ?_, hm.2⟩
  cases hsd : hasStarDot (withDefaultPort a.2) with
  | true => rfl
  | false =>
    have : allow.any (fun a => a.2.ok && (specExact o a.2 || litWild o a.2)) = true :=
      List.any_eq_true.mpr ⟨a, ha, by rw [← wild_eq_literal o a.2 hsd, hm.1, hm.2, Bool.or_true]; rfl⟩
    rw [key.1] at this; cases this

/-- The property at full strength ("every other character matches literally"), as a statement about
the wildcard branch. -/
def wildcard_literal_full : Prop := ∀ o a : PURL, wildMatch o a = true → litWild o a = true

def exCom : Bytes := asc ['e','x','a','m','p','l','e','.','c','o','m']
def starExCom : Bytes := asc ['*','.','e','x','a','m','p','l','e','.','c','o','m']

/-- It is false for the code (before and after the fix): `https://*.example.com` admits
`https://example.com`.  Recorded as known finding `optionalSubdomainDot`. -/
theorem wildcard_literal_full_false : ¬ wildcard_literal_full := by
  intro h
  have := h ⟨true, https, exCom⟩ ⟨true, https, starExCom⟩ (by decide)
  revert this
  decide +kernel

/-- Non-vacuity / regression examples (decided in the kernel). -/
example : isOriginAllowed (asc ['x']) ⟨true, https, asc ['a','.','b']⟩
    [(asc ['y'], ⟨true, https, asc ['*','.','b']⟩)] = .echo := by decide +kernel
-- the scheme is compared in the wildcard branch
example : isOriginAllowed (asc ['x']) ⟨true, https, asc ['a','.','b',':','8','0']⟩
    [(asc ['y'], ⟨true, http, asc ['*','.','b']⟩)] = .none := by decide +kernel
-- '.' in an allowed host is literal
example : isOriginAllowed (asc ['x']) ⟨true, https, asc ['a','X','b']⟩
    [(asc ['y'], ⟨true, https, asc ['*','a','.','b']⟩)] = .none := by decide +kernel

end MtxVerif.C05
