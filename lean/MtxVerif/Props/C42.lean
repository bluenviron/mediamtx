/-
C42 — source and destination templates substitute placeholders exactly.  Property theorems
(model = the single-pass `strings.NewReplacer` the code uses since /repo 8657437).

* `sim_tokens` (ALL templates, ALL values): the result is the concatenation, token by token, of a
  tokenisation computed from the template and the placeholder texts alone — an inserted value is never
  scanned, so no placeholder is ever replaced inside one.
* A template is also read as a list of items (`lit c` / `ph i`) with meaning `renderAll` (every
  placeholder replaced by its value, nothing else touched).  `sim_exact`: for every DELIMITED template
  (no stray `$`; every placeholder followed by the end or by a byte that occurs in no placeholder) and
  ANY values the pass yields exactly `renderAll`.
* `resolveSource_delimited`, `resolveDest_delimited`: the two functions with their real placeholder
  lists (`$G<n>` n-th group incl. multi-digit indices, `$MTX_QUERY`, `$MTX_PATH`); the condition "a
  higher-priority placeholder is never a prefix of a lower-priority one" is proved for the descending
  `$G` family from decimal arithmetic (`prefixOK_source/_dest`).
-/
import MtxVerif.Model.C42

namespace MtxVerif.C42

-- found at once; the search otherwise walks the order classes of `UInt8` at every use
local instance : LawfulBEq UInt8 := instLawfulBEq

theorem simGo_skip (P : Phs) (k : Nat) (s : Bytes) : simGo P k s = simGo P 0 (s.drop k) := by
  induction k generalizing s with
  | zero => rfl
  | succ k ih =>
    cases s with
    | nil => rfl
    | cons _ r => exact ih r

/-- every placeholder text is `$` followed by bytes other than `$` -/
def ShapeOK (P : Phs) : Prop := ∀ p ∈ P, ∃ body, p.1 = DOLLAR :: body ∧ DOLLAR ∉ body

theorem firstMatch_none_of_ne_dollar {P : Phs} (hP : ShapeOK P) {c : UInt8} (hc : c ≠ DOLLAR) (r : Bytes) :
    firstMatch P (c :: r) = none := by
  induction P with
  | nil => rfl
  | cons p ps ih =>
    obtain ⟨body, hb, _⟩ := hP p List.mem_cons_self
    have hne : (DOLLAR == c) = false := by
      rw [beq_eq_false_iff_ne]; exact fun e => hc e.symm
    simp only [firstMatch, hb, List.isPrefixOf, hne, Bool.false_and]
    exact ih (fun q hq => hP q (List.mem_cons_of_mem _ hq))

theorem simGo_lit {P : Phs} (hP : ShapeOK P) {c : UInt8} (hc : c ≠ DOLLAR) (r : Bytes) :
    simGo P 0 (c :: r) = c :: simGo P 0 r := by
  simp only [simGo, firstMatch_none_of_ne_dollar hP hc]

/-- bytes without `$` pass through unchanged -/
theorem simGo_plain {P : Phs} (hP : ShapeOK P) (v r : Bytes) (hv : DOLLAR ∉ v) :
    simGo P 0 (v ++ r) = v ++ simGo P 0 r := by
  induction v with
  | nil => rfl
  | cons c v ih =>
    have hc : c ≠ DOLLAR := fun e => hv (e ▸ List.mem_cons_self)
    rw [List.cons_append, simGo_lit hP hc, ih (fun h => hv (List.mem_cons_of_mem _ h))]
    rfl

/-- a match: the value is emitted and the scan continues after the placeholder -/
theorem simGo_match {P : Phs} {p : Bytes × Bytes} {c : UInt8} {body rest : Bytes} (hp : p.1 = c :: body)
    (hm : firstMatch P (p.1 ++ rest) = some p) :
    simGo P 0 (p.1 ++ rest) = p.2 ++ simGo P 0 rest := by
  rw [hp, List.cons_append] at hm ⊢
  simp only [simGo, hm]
  rw [simGo_skip, hp]
  simp

theorem prefix_of_delim {p a X : Bytes} (h : p <+: a ++ X) (hX : ∀ c ∈ X.head?, c ∉ p) : p <+: a := by
  -- `p` and `a` are comparable; if `p = a ++ r` reached into `X`, the first byte of `r` would be that of `X`
  rcases List.prefix_or_prefix_of_prefix h (List.prefix_append a X) with hp | ⟨r, rfl⟩
  · exact hp
  · cases r with
    | nil => rw [List.append_nil]; exact List.prefix_refl a
    | cons d r =>
      rw [List.prefix_append_right_inj, List.cons_prefix_iff] at h
      obtain ⟨X', rfl, _⟩ := h
      exact absurd (List.mem_append_right a List.mem_cons_self) (hX d rfl)

inductive Item where
  | lit (c : UInt8)
  | ph (i : Nat)      -- i-th placeholder of the priority list
deriving Repr, DecidableEq

def oldAt (P : Phs) (i : Nat) : Bytes := (P.getD i ([], [])).1
def valAt (P : Phs) (i : Nat) : Bytes := (P.getD i ([], [])).2

/-- the template text -/
def flatten (P : Phs) : List Item → Bytes
  | [] => []
  | .lit c :: t => c :: flatten P t
  | .ph i :: t => oldAt P i ++ flatten P t

/-- **the meaning of a template**: every placeholder replaced by its value, nothing else touched -/
def renderAll (P : Phs) : List Item → Bytes
  | [] => []
  | .lit c :: t => c :: renderAll P t
  | .ph i :: t => valAt P i ++ renderAll P t

/-- a byte that occurs in no placeholder text -/
def Delim (P : Phs) (c : UInt8) : Prop := ∀ p ∈ P, c ∉ p.1

/-- what may follow a placeholder: the end of the template or a delimiter byte -/
def NextOK (P : Phs) : List Item → Prop
  | [] => True
  | .lit c :: _ => Delim P c
  | .ph _ :: _ => False

/-- DELIMITED templates: literals are not `$`; every placeholder exists, is not shadowed by a
higher-priority placeholder that is a prefix of it, and is followed by the end of the template or by
a delimiter byte. -/
def GoodItems (P : Phs) : List Item → Prop
  | [] => True
  | .lit c :: t => c ≠ DOLLAR ∧ GoodItems P t
  | .ph i :: t =>
    i < P.length ∧ (∀ n, n < i → ¬ oldAt P n <+: oldAt P i) ∧ NextOK P t ∧ GoodItems P t

instance (P : Phs) (c : UInt8) : Decidable (Delim P c) := by unfold Delim; exact inferInstance

instance (P : Phs) : (t : List Item) → Decidable (NextOK P t)
  | [] => isTrue trivial
  | .lit c :: _ => by unfold NextOK; exact inferInstance
  | .ph _ :: _ => isFalse id

instance goodItemsDec (P : Phs) : (t : List Item) → Decidable (GoodItems P t)
  | [] => isTrue trivial
  | .lit c :: t => by
    have := goodItemsDec P t
    unfold GoodItems; exact inferInstance
  | .ph i :: t => by
    have := goodItemsDec P t
    unfold GoodItems; exact inferInstance

theorem getD_mem {P : Phs} {i : Nat} (h : i < P.length) : P.getD i ([], []) ∈ P := by
  rw [List.getD_eq_getElem?_getD, List.getElem?_eq_getElem h]; exact List.getElem_mem h

theorem head_flatten_delim {P : Phs} {t : List Item} (h : NextOK P t) : ∀ c ∈ (flatten P t).head?, Delim P c := by
  match t, h with
  | [], _ => nofun
  | .lit c :: _, h => exact fun _ hc => Option.some.inj hc ▸ h

theorem firstMatch_at (P : Phs) (i : Nat) (s : Bytes) (hi : i < P.length) (hpre : oldAt P i <+: s)
    (hno : ∀ n, n < i → ¬ oldAt P n <+: s) : firstMatch P s = some (P.getD i ([], [])) := by
  induction P generalizing i with
  | nil => cases hi
  | cons p ps ih =>
    rw [firstMatch]
    cases i with
    | zero => exact if_pos ((List.isPrefixOf_iff_prefix (l₁ := p.1)).mpr hpre)
    | succ j =>
      rw [if_neg (fun h => hno 0 (Nat.succ_pos j) (List.isPrefixOf_iff_prefix.mp h : p.1 <+: s))]
      exact ih j (Nat.lt_of_succ_lt_succ hi) hpre (fun n hn => hno (n + 1) (Nat.succ_lt_succ hn))

/-- **The simultaneous pass is exact on delimited templates** (no condition on the values). -/
theorem sim_exact {P : Phs} (hP : ShapeOK P) : ∀ t, GoodItems P t → sim P (flatten P t) = renderAll P t := by
  intro t
  unfold sim
  induction t with
  | nil => intro _; rfl
  | cons x t ih =>
    intro hg
    cases x with
    | lit c => exact (simGo_lit hP hg.1 _).trans (congrArg _ (ih hg.2))
    | ph i =>
      obtain ⟨hi, hpre, hnext, hg⟩ := hg
      obtain ⟨body, hb, _⟩ := hP _ (getD_mem hi)
      -- no higher-priority placeholder matches here: it would be a prefix of placeholder `i` itself
      have hm : firstMatch P (oldAt P i ++ flatten P t) = some (P.getD i ([], [])) :=
        firstMatch_at P i _ hi (List.prefix_append _ _) fun n hn h =>
          hpre n hn (prefix_of_delim h fun c hc => head_flatten_delim hnext c hc _ (getD_mem (by omega)))
      exact (simGo_match hb hm).trans (congrArg _ (ih hg))

theorem digit_toNat {d : Nat} (h : d < 10) : (UInt8.ofNat (48 + d)).toNat = 48 + d := by
  rw [UInt8.toNat_ofNat']; exact Nat.mod_eq_of_lt (by omega)

theorem decGo_digits (f n : Nat) (c : UInt8) (h : c ∈ decGo f n) : 48 ≤ c.toNat ∧ c.toNat ≤ 57 := by
  induction f generalizing n with
  | zero => cases h
  | succ f ih =>
    rw [decGo] at h
    split at h
    · obtain rfl := List.mem_singleton.mp h
      rw [digit_toNat ‹_›]; omega
    · rcases List.mem_append.mp h with h | h
      · exact ih _ h
      · obtain rfl := List.mem_singleton.mp h
        rw [digit_toNat (Nat.mod_lt _ (by decide))]; omega

theorem phG_shape (i : Nat) : ∃ body, phG i = DOLLAR :: body ∧ DOLLAR ∉ body := by
  refine ⟨71 :: dec i, rfl, ?_⟩
  intro h
  rcases List.mem_cons.mp h with h | h
  · revert h; decide
  · have := decGo_digits _ _ _ h
    have e : DOLLAR.toNat = 36 := by decide
    omega

theorem groupPhs_mem {ms : List Bytes} {p : Bytes × Bytes} (h : p ∈ groupPhs ms) : ∃ i, p.1 = phG i := by
  simp only [groupPhs, List.mem_map] at h
  obtain ⟨j, _, rfl⟩ := h
  exact ⟨j + 1, rfl⟩

theorem shape_source (ms : List Bytes) (q : Bytes) : ShapeOK (sourcePhs ms q) := by
  intro p hp
  rcases List.mem_append.mp hp with h | h
  · obtain ⟨i, hi⟩ := groupPhs_mem h
    rw [hi]; exact phG_shape i
  · simp only [List.mem_singleton] at h
    subst h
    exact ⟨[77, 84, 88, 95, 81, 85, 69, 82, 89], rfl, by decide⟩

theorem shape_dest (pn : Bytes) (ms : List Bytes) : ShapeOK (destPhs pn ms) := by
  intro p hp
  rcases List.mem_cons.mp hp with h | h
  · subst h
    exact ⟨[77, 84, 88, 95, 80, 65, 84, 72], rfl, by decide⟩
  · obtain ⟨i, hi⟩ := groupPhs_mem h
    rw [hi]; exact phG_shape i

def dval (l : Bytes) : Nat := l.foldl (fun acc c => acc * 10 + (c.toNat - 48)) 0

theorem foldl_ge (r : Bytes) : ∀ a : Nat, a ≤ r.foldl (fun acc c => acc * 10 + (c.toNat - 48)) a := by
  induction r with
  | nil => intro a; exact Nat.le_refl a
  | cons c r ih =>
    intro a
    simp only [List.foldl_cons]
    exact Nat.le_trans (by omega) (ih _)

theorem dval_prefix {p s : Bytes} (h : p <+: s) : dval p ≤ dval s := by
  obtain ⟨r, rfl⟩ := h
  simp only [dval, List.foldl_append]
  exact foldl_ge r _

theorem dval_snoc (l : Bytes) (c : UInt8) : dval (l ++ [c]) = dval l * 10 + (c.toNat - 48) := by
  simp only [dval, List.foldl_append, List.foldl_cons, List.foldl_nil]

theorem dval_decGo (f n : Nat) (h : n < f) : dval (decGo f n) = n := by
  induction f generalizing n with
  | zero => omega
  | succ f ih =>
    rw [decGo]
    split
    · rw [← List.nil_append [_], dval_snoc, digit_toNat ‹_›]
      exact (Nat.zero_add _).trans (Nat.add_sub_cancel_left ..)
    · rw [dval_snoc, ih (n / 10) (by omega), digit_toNat (Nat.mod_lt n (by decide)), Nat.add_sub_cancel_left]
      exact Nat.div_add_mod' n 10

theorem dec_not_prefix {a b : Nat} (h : b < a) : ¬ dec a <+: dec b := by
  intro hp
  have := dval_prefix hp
  rw [dec, dec, dval_decGo _ _ (by omega), dval_decGo _ _ (by omega)] at this
  omega

theorem phG_not_prefix {a b : Nat} (h : b < a) : ¬ phG a <+: phG b := by
  intro hp
  simp only [phG, List.cons_prefix_cons] at hp
  exact dec_not_prefix h hp.2.2

theorem phG_not_prefix_query (a : Nat) : ¬ phG a <+: MTX_QUERY := by
  intro h
  simp only [phG, MTX_QUERY, List.cons_prefix_cons] at h
  exact absurd h.2.1 (by decide)

theorem path_not_prefix_phG (a : Nat) : ¬ MTX_PATH <+: phG a := by
  intro h
  simp only [phG, MTX_PATH, List.cons_prefix_cons] at h
  exact absurd h.2.1 (by decide)

/-- the order of a placeholder list is harmless when no text is a prefix of a later one -/
def PrefixFree (P : Phs) : Prop := P.Pairwise fun p q => ¬ p.1 <+: q.1

theorem prefixOK_of_prefixFree {P : Phs} (h : PrefixFree P) (i n : Nat) (hn : n < i) (hi : i < P.length) :
    ¬ oldAt P n <+: oldAt P i := by
  have hn' : n < P.length := Nat.lt_trans hn hi
  simp only [oldAt, List.getD_eq_getElem?_getD, List.getElem?_eq_getElem hi, List.getElem?_eq_getElem hn',
    Option.getD_some]
  exact List.pairwise_iff_getElem.mp h n i hn' hi hn

/-- `$G<n>` … `$G1`: descending indices -/
theorem prefixFree_group (ms : List Bytes) : PrefixFree (groupPhs ms) := by
  rw [PrefixFree, groupPhs, List.pairwise_map, List.pairwise_reverse]
  exact List.pairwise_lt_range.imp fun h => phG_not_prefix (Nat.succ_lt_succ h)

theorem prefixFree_source (ms : List Bytes) (q : Bytes) : PrefixFree (sourcePhs ms q) := by
  refine List.pairwise_append.mpr ⟨prefixFree_group ms, List.pairwise_singleton _ _, fun p hp r hr => ?_⟩
  obtain ⟨i, hi⟩ := groupPhs_mem hp
  obtain rfl := List.mem_singleton.mp hr
  exact hi ▸ phG_not_prefix_query i

theorem prefixFree_dest (pn : Bytes) (ms : List Bytes) : PrefixFree (destPhs pn ms) := by
  refine List.pairwise_cons.mpr ⟨fun p hp => ?_, prefixFree_group ms⟩
  obtain ⟨i, hi⟩ := groupPhs_mem hp
  exact hi ▸ path_not_prefix_phG i

/-- in `resolveSource`'s list no earlier (higher-priority) placeholder is a prefix of a later one -/
theorem prefixOK_source (ms : List Bytes) (q : Bytes) (i n : Nat) (hn : n < i)
    (hi : i < (sourcePhs ms q).length) :
    ¬ oldAt (sourcePhs ms q) n <+: oldAt (sourcePhs ms q) i :=
  prefixOK_of_prefixFree (prefixFree_source ms q) i n hn hi

theorem prefixOK_dest (pn : Bytes) (ms : List Bytes) (i n : Nat) (hn : n < i)
    (hi : i < (destPhs pn ms).length) :
    ¬ oldAt (destPhs pn ms) n <+: oldAt (destPhs pn ms) i :=
  prefixOK_of_prefixFree (prefixFree_dest pn ms) i n hn hi

/-- DELIMITED template, stated without the shadowing condition -/
def DelimItems (P : Phs) : List Item → Prop
  | [] => True
  | .lit c :: t => c ≠ DOLLAR ∧ DelimItems P t
  | .ph i :: t => i < P.length ∧ NextOK P t ∧ DelimItems P t

instance delimItemsDec (P : Phs) : (t : List Item) → Decidable (DelimItems P t)
  | [] => isTrue trivial
  | .lit c :: t => by
    have := delimItemsDec P t
    unfold DelimItems; exact inferInstance
  | .ph i :: t => by
    have := delimItemsDec P t
    unfold DelimItems; exact inferInstance

theorem good_of_delim {P : Phs} (hpre : ∀ i n, n < i → i < P.length → ¬ oldAt P n <+: oldAt P i) :
    ∀ t, DelimItems P t → GoodItems P t
  | [], _ => trivial
  | .lit _ :: t, h => ⟨h.1, good_of_delim hpre t h.2⟩
  | .ph i :: t, h => ⟨h.1, fun n hn => hpre i n hn h.1, h.2.1, good_of_delim hpre t h.2.2⟩

/-- **C42 for static sources**: for every delimited template, all groups and every query (any bytes),
`resolveSource` returns the template with each `$G<n>` replaced by group n and `$MTX_QUERY` by the
query, and nothing else changed. -/
theorem resolveSource_delimited (ms : List Bytes) (q : Bytes) (t : List Item)
    (hd : DelimItems (sourcePhs ms q) t) :
    resolveSource (flatten (sourcePhs ms q) t) ms q = renderAll (sourcePhs ms q) t :=
  sim_exact (shape_source ms q) t (good_of_delim (prefixOK_source ms q) t hd)

/-- **C42 for forward destinations**. -/
theorem resolveDest_delimited (pn : Bytes) (ms : List Bytes) (t : List Item)
    (hd : DelimItems (destPhs pn ms) t) :
    resolveDest (flatten (destPhs pn ms) t) pn ms = renderAll (destPhs pn ms) t :=
  sim_exact (shape_dest pn ms) t (good_of_delim (prefixOK_dest pn ms) t hd)

inductive Tok where
  | lit (c : UInt8)     -- byte copied
  | ph (i : Nat)        -- i-th placeholder of the list matched here
deriving Repr, DecidableEq

/-- index of the first placeholder text that is a prefix of `s` -/
def firstIdx : List Bytes → Bytes → Option Nat
  | [], _ => none
  | o :: os, s => if o.isPrefixOf s then some 0 else (firstIdx os s).map (· + 1)

/-- tokenisation of a template: depends on the placeholder TEXTS and the template only -/
def tokGo (olds : List Bytes) : Nat → Bytes → List Tok
  | _, [] => []
  | k + 1, _ :: r => tokGo olds k r
  | 0, c :: r =>
    match firstIdx olds (c :: r) with
    | some i => Tok.ph i :: tokGo olds ((olds.getD i []).length - 1) r
    | none => Tok.lit c :: tokGo olds 0 r

def renderTok (P : Phs) : Tok → Bytes
  | .lit c => [c]
  | .ph i => valAt P i

theorem firstMatch_firstIdx (P : Phs) (s : Bytes) :
    firstMatch P s = (firstIdx (P.map (·.1)) s).map fun i => P.getD i ([], []) := by
  induction P with
  | nil => rfl
  | cons p ps ih =>
    simp only [firstMatch, List.map_cons, firstIdx]
    split
    · rfl
    · rw [ih, Option.map_map]; rfl
/-- **No placeholder is replaced inside an inserted value** — for all templates, placeholder lists and
values: the output is the token-wise rendering of a tokenisation that does not depend on the values. -/
theorem sim_tokens (P : Phs) : ∀ (s : Bytes) (k : Nat),
    simGo P k s = (tokGo (P.map (·.1)) k s).flatMap (renderTok P) := by
  intro s
  induction s with
  | nil => intro k; simp [simGo, tokGo]
  | cons c r ih =>
    intro k
    cases k with
    | succ k => simp only [simGo, tokGo]; exact ih k
    | zero =>
      simp only [simGo, tokGo, firstMatch_firstIdx]
      cases h : firstIdx (P.map (·.1)) (c :: r) with
      | none => simp only [Option.map_none, List.flatMap_cons, ← ih]; rfl
      | some i =>
        simp only [Option.map_some, List.flatMap_cons, ← ih, renderTok, valAt]
        have e : (List.getD (List.map (fun x => x.1) P) i []).length = (P.getD i ([], [])).1.length := by
          simp only [List.getD_eq_getElem?_getD, List.getElem?_map]
          cases P[i]? <;> rfl
        rw [e]

theorem tmplAfter_append (t : Bytes) (pre : List Act) (a : Act) :
    tmplAfter t (pre ++ [a]) = tmplAfterAct (tmplAfter t pre) a := by
  induction pre generalizing t with
  | nil => rfl
  | cons b r ih => simp only [List.cons_append, tmplAfter]; exact ih _

theorem histRuns_append (t : Bytes) (ms : List Bytes) (pre : List Act) (a : Act) :
    histRuns t ms (pre ++ [a]) = histRuns t ms pre ++ [actRuns (tmplAfter t pre) ms a] := by
  induction pre generalizing t with
  | nil => rfl
  | cons b r ih => simp only [List.cons_append, histRuns, tmplAfter, ih]

/-- the template in force depends on the reloads only, never on a query -/
theorem tmplAfter_eq_foldl (t : Bytes) (h : List Act) :
    tmplAfter t h = (h.map (·.reload)).foldl (fun t r => r.getD t) t := by
  induction h generalizing t with
  | nil => rfl
  | cons a r ih => exact ih _

/-- **State-free across activations.** What the k-th activation hands to the source is computed from the
template in force and ITS query; two histories that differ only in the queries (and retries) of EARLIER
activations give the same result for the last one. -/
theorem activation_independent (t : Bytes) (ms : List Bytes) (pre pre' : List Act) (a : Act)
    (h : pre.map (·.reload) = pre'.map (·.reload)) :
    (histRuns t ms (pre ++ [a])).getLast? = (histRuns t ms (pre' ++ [a])).getLast? := by
  rw [histRuns_append, histRuns_append, tmplAfter_eq_foldl t pre, tmplAfter_eq_foldl t pre', h]
  simp

/-- without reloads every run of the k-th activation is `resolveSource template matches query_k` -/
theorem activation_runs (t : Bytes) (ms : List Bytes) (a : Act) (h : a.reload = none) :
    ∀ r ∈ actRuns t ms a, r = resolveSource t ms a.query := by
  intro r hr
  simp only [actRuns, tmplAfterAct, h, Option.getD_none, List.mem_cons, List.mem_replicate] at hr
  rcases hr with rfl | ⟨_, rfl⟩ <;> rfl

-- `a$G1:$G2?$MTX_QUERY` with two groups is a delimited template (hypotheses are satisfiable) …
example : DelimItems (sourcePhs [[102], [120, 49], [121]] [36, 71, 49])
    [.lit 97, .ph 1, .lit 58, .ph 0, .lit 63, .ph 2] := by decide
example : GoodItems (sourcePhs [[102], [120, 49], [121]] [36, 71, 49])
    [.lit 97, .ph 1, .lit 58, .ph 0, .lit 63, .ph 2] := by decide
-- … its text and its meaning (the query "$G1" is inserted verbatim)
example : flatten (sourcePhs [[102], [120, 49], [121]] [36, 71, 49]) [.lit 97, .ph 1, .lit 58, .ph 0, .lit 63, .ph 2]
    = [97, 36,71,49, 58, 36,71,50, 63, 36,77,84,88,95,81,85,69,82,89] := by decide
example : resolveSource [97, 36,71,49, 58, 36,71,50, 63, 36,77,84,88,95,81,85,69,82,89] [[102], [120, 49], [121]] [36, 71, 49]
    = [97, 120,49, 58, 121, 63, 36,71,49] := by decide
-- multi-digit indices: `$G12` with 12 groups is group 12, with 5 groups it is group 1 followed by "2"
example : phG 12 = [36, 71, 49, 50] := by decide
example : sim (sourcePhs ([[102]] ++ List.replicate 12 [103]) []) [36, 71, 49, 50] = [103] := by decide
example : sim (sourcePhs ([[102]] ++ List.replicate 5 [103]) []) [36, 71, 49, 50] = [103, 50] := by decide
-- regressions of the pre-8657437 defect (sequence of ReplaceAll calls): `$G$G2` with groups (a, 1) stays
-- `$G1`; `$$MTX_PATH` with path "G1" stays `$G1`
example : resolveSource [36, 71, 36, 71, 50] [[97, 49], [97], [49]] [] = [36, 71, 49] := by decide
example : resolveDest [36, 36, 77, 84, 88, 95, 80, 65, 84, 72] [71, 49] [[71, 49], [120]] = [36, 71, 49] := by decide
-- a value that looks like a placeholder is inserted verbatim, wherever it comes from
example : resolveSource [36, 71, 50, 47, 36, 71, 49] [[102], [120], [36, 71, 49]] [] = [36, 71, 49, 47, 120] := by decide

end MtxVerif.C42
