/-
C19 — Every held request is answered exactly once; on-demand start/stop automaton with timers.
Property theorems over the shared path state machine, for every valid configuration and every
history (all interleavings of requests, source ready/not-ready, timer expiries, reader removals,
publisher add/remove, reload, close).
-/
import MtxVerif.Model.C19
import MtxVerif.Lemmas.C19Replies
import MtxVerif.Lemmas.C19Auto
import MtxVerif.Lemmas.C18Out

namespace MtxVerif.C19
open MtxVerif.PathSM

def Reach (s : State) : Prop := ∃ c es, c.valid = true ∧ s = (run (init c) es).1

theorem reach_inv {s : State} (h : Reach s) : Inv s ∧ Inv2 s := by
  obtain ⟨c, es, hv, rfl⟩ := h
  exact ⟨inv_reach c hv es, inv2_reach c hv es⟩

/-- **One step.** Answers given in the step + requests still on hold afterwards = requests on hold
before + the request that entered with this event (counted per request id, with multiplicity). -/
theorem step_accounting {s : State} (h : Reach s) (e : Event) (rid : Nat) :
    (replyIds (step s e).2).count rid + (pending (step s e).1).count rid =
      (pending s).count rid + reqCount e rid := by
  have := tot_stepW e rid { s := s } (reach_inv h).1
  unfold tot at this
  simp only [replyIds_nil, List.count_nil, Nat.zero_add] at this
  exact this

/-- number of times request id `rid` enters in a history -/
def requested (es : List Event) (rid : Nat) : Nat := (es.map (reqCount · rid)).sum

theorem run_accounting (es : List Event) : ∀ (s : State), Inv s → ∀ rid,
    (replyIds (run s es).2.flatten).count rid + (pending (run s es).1).count rid =
      (pending s).count rid + requested es rid := by
  induction es with
  | nil => intro s _ rid; simp [run, requested]
  | cons e es ih =>
    intro s hi rid
    have h1 := tot_stepW e rid { s := s } hi
    unfold tot at h1
    simp only [replyIds_nil, List.count_nil, Nat.zero_add] at h1
    have h2 := ih (stepW e { s := s }).s (inv_stepW e { s := s } hi) rid
    have er : run s (e :: es) =
        ((run (stepW e { s := s }).s es).1, (stepW e { s := s }).out :: (run (stepW e { s := s }).s es).2) := rfl
    rw [er]
    simp only [List.flatten_cons, replyIds_append, List.count_append, requested, List.map_cons, List.sum_cons] at *
    omega

theorem pending_init (c : Conf) : pending (init c) = [] := by rw [init_s]; rfl

/-- **Whole histories.** For every history from the start state and every request id: answers in the
whole output trace + still on hold = number of times the id was requested. -/
theorem history_accounting (c : Conf) (hv : c.valid = true) (es : List Event) (rid : Nat) :
    (replyIds (trace (init c) es)).count rid + (pending (run (init c) es).1).count rid = requested es rid := by
  have := run_accounting es (init c) (inv_init c hv) rid
  rw [pending_init] at this
  simpa [trace] using this

/-- **Exactly once.** A request id used once in a history that ends with the path closed is answered
exactly once in the whole trace (with the stream, an error at timeout, or `terminated` at close). -/
theorem exactly_once (c : Conf) (hv : c.valid = true) (es : List Event) (rid : Nat)
    (hreq : requested es rid = 1) (hcl : (run (init c) es).1.closed = true) :
    (replyIds (trace (init c) es)).count rid = 1 := by
  have h := history_accounting c hv es rid
  have hi := inv_reach c hv es
  have hp : pending (run (init c) es).1 = [] := by
    unfold pending; rw [(hi.cl hcl).2.2.1, (hi.cl hcl).2.2.2.1]; rfl
  rw [hp, hreq] at h
  simpa using h

/-- **At most once, and held ⇔ not yet answered** (for histories that are still running). -/
theorem at_most_once (c : Conf) (hv : c.valid = true) (es : List Event) (rid : Nat)
    (hreq : requested es rid = 1) :
    (replyIds (trace (init c) es)).count rid ≤ 1 ∧
    ((replyIds (trace (init c) es)).count rid = 0 ↔ rid ∈ pending (run (init c) es).1) := by
  have h := history_accounting c hv es rid
  rw [hreq] at h
  constructor
  · omega
  · rw [← List.count_pos_iff]; omega

/-- an id that was never requested is never answered and never held -/
theorem never_unrequested (c : Conf) (hv : c.valid = true) (es : List Event) (rid : Nat)
    (hreq : requested es rid = 0) :
    rid ∉ replyIds (trace (init c) es) ∧ rid ∉ pending (run (init c) es).1 := by
  have h := history_accounting c hv es rid
  rw [hreq] at h
  constructor <;> (rw [← List.count_pos_iff]; omega)

theorem step_timer {s : State} (h : Reach s) (hc : s.closed = false) (t : Timer) (ha : timerArmed s t = true) :
    (step s (.timer t)).1 = (fireTimer t { s := s }).s ∧ (step s (.timer t)).2 = (fireTimer t { s := s }).out := by
  unfold step
  rw [stepW_timer t { s := s } (reach_inv h).1 hc ha]
  exact ⟨rfl, rfl⟩

/-- the start-timeout timer answers every held request (and holds none afterwards) -/
theorem timeout_answers_all {s : State} (h : Reach s) (hc : s.closed = false) (t : Timer)
    (ht : t = .srcReady ∨ t = .pubReady) (ha : timerArmed s t = true) :
    pending (step s (.timer t)).1 = [] := by
  rw [(step_timer h hc t ha).1, fireTimer_s t { s := s } (reach_inv h).1 hc ha]
  rcases ht with rfl | rfl <;> rfl

/-- closing the path answers every held request -/
theorem close_answers_all {s : State} (h : Reach s) (hc : s.closed = false) :
    pending (step s .close).1 = [] ∧ (step s .close).1.closed = true := by
  have hi := (reach_inv h).1
  unfold step stepW
  rw [if_neg (by simp [hi.np]), if_neg (by simp [hc])]
  exact ⟨by show pending (doClose _).s = []; rw [doClose_s]; rfl, by show (doClose _).s.closed = true; rw [doClose_s]⟩

/-- timers are armed exactly in the matching automaton state -/
theorem timers_match_state {s : State} (h : Reach s) (hc : s.closed = false) :
    (s.tSrcReady = true ↔ s.odSrc = .waiting) ∧ (s.tSrcClose = true ↔ s.odSrc = .closing) ∧
    (s.tPubReady = true ↔ s.odPub = .waiting) ∧ (s.tPubClose = true ↔ s.odPub = .closing) :=
  ⟨(reach_inv h).1.src.o2 hc, (reach_inv h).1.src.o2' hc, (reach_inv h).1.pub.q2 hc, (reach_inv h).1.pub.q2' hc⟩

/-- the on-demand source handler runs exactly while the automaton is not `initial`; the runOnDemand
pair is open exactly while the publisher automaton is not `initial` -/
theorem running_iff_state {s : State} (h : Reach s) (hc : s.closed = false) :
    (s.conf.odStatic = true → (s.srcRunning = true ↔ s.odSrc ≠ .initial)) ∧
    (s.hkDemand = true ↔ s.odPub ≠ .initial) :=
  ⟨fun ho => (reach_inv h).1.src.o3 ho hc, (reach_inv h).1.pub.q3 hc⟩

theorem step_describe_hold {s : State} (h : Reach s) (hc : s.closed = false) (rid : Nat) (hs : s.stream = none)
    (ho : s.conf.odStatic = true ∨ s.conf.odPub = true) :
    stepW (.describe rid) { s := s } =
      closeCheck (upd (fun s => { s with descHold := s.descHold ++ [rid] }) (holdDemand { s := s })) := by
  have hi := (reach_inv h).1
  have hsrc : ¬ s.source = some .redirect := by
    intro e
    have hk := hi.kind.kRedirect.mpr e
    rcases ho with ho | ho
    · rw [((odStatic_iff _).mp ho).1] at hk; cases hk
    · rw [((Conf.valid_iff _).mp hi.valid).2.2.2 ho] at hk; cases hk
  unfold stepW
  rw [if_neg (by simp [hi.np]), if_neg (by simp [hc])]
  show closeCheck (doDescribe rid { s := s }) = _
  unfold doDescribe
  rw [if_neg hsrc, if_neg (by simp [hs]), if_pos (by rcases ho with ho | ho <;> simp [ho])]

/-- **Start on first demand** (on-demand static source): a describe that finds no stream while the
automaton is `initial` starts the source, arms the start timer and is held. -/
theorem start_on_first_demand_static {s : State} (h : Reach s) (hc : s.closed = false) (rid : Nat)
    (ho : s.conf.odStatic = true) (hs : s.stream = none) (h0 : s.odSrc = .initial) :
    Out.srcStart ∈ (step s (.describe rid)).2 ∧ (step s (.describe rid)).1.odSrc = .waiting ∧
    (step s (.describe rid)).1.tSrcReady = true ∧ rid ∈ pending (step s (.describe rid)).1 := by
  have hrun : s.srcRunning = false := by
    have := (reach_inv h).1.src.o3 ho hc; rw [h0] at this; simpa using this
  unfold step
  rw [step_describe_hold h hc rid hs (Or.inl ho)]
  dsimp only
  refine ⟨?_, ?_, ?_, ?_⟩
  · apply mem_of_pre (pre_closeCheck List.prefix_rfl)
    unfold holdDemand onDemandStaticSourceStart srcStart
    simp [ho, h0, hrun]
  all_goals rw [closeCheck_s, upd_s, holdDemand_s]; simp [ho, h0, pending]

/-- **Start on first demand** (runOnDemand publisher path) -/
theorem start_on_first_demand_pub {s : State} (h : Reach s) (hc : s.closed = false) (rid : Nat)
    (ho : s.conf.odPub = true) (hs : s.stream = none) (h0 : s.odPub = .initial) :
    Out.hook .demand true ∈ (step s (.describe rid)).2 ∧ (step s (.describe rid)).1.odPub = .waiting ∧
    (step s (.describe rid)).1.tPubReady = true ∧ rid ∈ pending (step s (.describe rid)).1 := by
  have hns := odPub_not_static (reach_inv h).1 ho
  unfold step
  rw [step_describe_hold h hc rid hs (Or.inr ho)]
  dsimp only
  refine ⟨?_, ?_, ?_, ?_⟩
  · apply mem_of_pre (pre_closeCheck List.prefix_rfl)
    unfold holdDemand onDemandPublisherStart
    simp [hns, h0]
  all_goals rw [closeCheck_s, upd_s, holdDemand_s]; simp [hns, h0, pending]

/-- **Stop only when no reader remains**: a close timer is only ever armed while the path has no
readers (a reader arriving during the close delay disarms it — `IdleOK.a1/a3`) ... -/
theorem close_timer_no_readers {s : State} (h : Reach s) (hc : s.closed = false)
    (ha : s.tSrcClose = true ∨ s.tPubClose = true) : s.readers = [] := by
  obtain ⟨hi, h2⟩ := reach_inv h
  rcases ha with ha | ha
  · have hcl := (hi.src.o2' hc).mp ha
    exact h2.idle.a1 (hi.src.od (by rw [hcl]; simp)) hc hcl
  · have hcl := (hi.pub.q2' hc).mp ha
    have ho : s.conf.odPub = true := by
      cases hh : s.conf.odPub with
      | true => rfl
      | false => have := hi.pub.q1 hh; rw [this] at hcl; cases hcl
    exact h2.idle.a3 ho hc hcl

/-- ... and when it expires the source is stopped / the runOnDemand pair closed and the automaton is
back in `initial`, from where later demand starts it again (`start_on_first_demand_*`). -/
theorem close_timer_stops {s : State} (h : Reach s) (hc : s.closed = false) :
    (s.tSrcClose = true → Out.srcStop ∈ (step s (.timer .srcClose)).2 ∧
        (step s (.timer .srcClose)).1.odSrc = .initial ∧ (step s (.timer .srcClose)).1.stream = none) ∧
    (s.tPubClose = true → Out.hook .demand false ∈ (step s (.timer .pubClose)).2 ∧
        (step s (.timer .pubClose)).1.odPub = .initial) := by
  have hi := (reach_inv h).1
  constructor <;> intro ha
  · rw [(step_timer h hc .srcClose ha).1, (step_timer h hc .srcClose ha).2, fireTimer_s .srcClose { s := s } hi hc ha]
    exact ⟨fireTimer_stops .srcClose { s := s } hi hc ha, rfl, rfl⟩
  · rw [(step_timer h hc .pubClose ha).1, (step_timer h hc .pubClose ha).2, fireTimer_s .pubClose { s := s } hi hc ha]
    exact ⟨fireTimer_stops .pubClose { s := s } hi hc ha, rfl⟩

/-! ### held requests are bounded by the start timeout (finding F-C19 `hold-no-timer`, fixed in 316e99c) -/

/-- a start-timeout timer is running whenever a request is on hold -/
def HoldHasTimer (s : State) : Prop := Holding s → s.tSrcReady = true ∨ s.tPubReady = true

/-- **Bounded wait, full strength**: in every reachable state of every valid configuration, a held
request has a start-timeout timer running (on-demand static source and runOnDemand paths alike). -/
theorem hold_has_timer (c : Conf) (hv : c.valid = true) (es : List Event) : HoldHasTimer (run (init c) es).1 := by
  have hi := inv_reach c hv es
  have h2 := inv2_reach c hv es
  intro hh
  have hc : (run (init c) es).1.closed = false := by
    cases hcl : (run (init c) es).1.closed with
    | false => rfl
    | true => have := hi.cl hcl; unfold Holding at hh; rw [this.2.2.1, this.2.2.2.1] at hh; simp at hh
  cases ho : (run (init c) es).1.conf.odStatic with
  | true => exact Or.inl ((hi.src.o2 hc).mpr (h2.hold.b2 ho hh))
  | false => exact Or.inr ((hi.pub.q2 hc).mpr (h2.hold.b3 ho hh))

/-- **Late demand re-arms.** A describe that arrives on a runOnDemand path after the publisher has
gone away (no stream, automaton still `ready` or `closing`) is held, cancels the close timer and arms
the start-timeout timer: the automaton is `waiting` again. -/
theorem late_demand_rearms {s : State} (h : Reach s) (hc : s.closed = false) (rid : Nat)
    (ho : s.conf.odPub = true) (hs : s.stream = none) (h0 : s.odPub = .ready ∨ s.odPub = .closing) :
    (step s (.describe rid)).1.odPub = .waiting ∧ (step s (.describe rid)).1.tPubReady = true ∧
    (step s (.describe rid)).1.tPubClose = false ∧ rid ∈ pending (step s (.describe rid)).1 ∧
    (step s (.describe rid)).1.hkDemand = true := by
  have hi := (reach_inv h).1
  have hns := odPub_not_static hi ho
  have hdem : s.hkDemand = true := (hi.pub.q3 hc).mpr (by rcases h0 with e | e <;> rw [e] <;> simp)
  have hq2' := hi.pub.q2' hc
  unfold step
  rw [step_describe_hold h hc rid hs (Or.inr ho)]
  dsimp only
  rw [closeCheck_s, upd_s, holdDemand_s]
  rcases h0 with e0 | e0 <;> simp [hns, e0, pending, hdem] <;> simp_all

/-- **Stop at the start timeout.** When the start-timeout timer of a runOnDemand path expires, every
held request is answered, the runOnDemand pair is closed and the automaton is back in `initial` —
from where the NEXT demand starts the command again (`start_on_first_demand_pub`). -/
theorem start_timeout_stops_pub {s : State} (h : Reach s) (hc : s.closed = false) (ha : s.tPubReady = true) :
    Out.hook .demand false ∈ (step s (.timer .pubReady)).2 ∧ (step s (.timer .pubReady)).1.odPub = .initial ∧
    (step s (.timer .pubReady)).1.hkDemand = false ∧ pending (step s (.timer .pubReady)).1 = [] := by
  have hi := (reach_inv h).1
  rw [(step_timer h hc .pubReady ha).1, (step_timer h hc .pubReady ha).2, fireTimer_s .pubReady { s := s } hi hc ha]
  exact ⟨fireTimer_stops .pubReady { s := s } hi hc ha, rfl, rfl, rfl⟩

def cDemand : Conf := { kind := .publisher, runOnDemand := true }

example : cDemand.valid = true := by decide

/-- demand → start; publisher → held request answered, close timer armed; no reader → stop; restart. -/
example : (run (init cDemand)
    [.describe 1, .addPublisher 0 true, .timer .pubClose, .describe 2, .removePublisher 0, .describe 3, .timer .pubReady]).2 =
  [[.hook .demand true, .arm .pubReady],
   [.hook .avail true, .hook .online true, .pathReady, .disarm .pubReady, .arm .pubClose, .reply 1 (.stream 0), .pubReply (.ok 0)],
   [.disarm .pubClose, .hook .demand false],
   [.reply 2 (.stream 0)],
   [.pathNotReady, .hook .online false, .hook .avail false],
   [.hook .demand true, .arm .pubReady],
   [.reply 3 .timedOut, .hook .demand false]] := by decide

/-- the publisher-went-away history (former finding F-C19): the late request re-arms the start timer
(the close timer is cancelled), the timeout answers it and stops runOnDemand, the next demand restarts it -/
example : (run (init cDemand)
    [.describe 1, .addPublisher 0 true, .removePublisher 0, .describe 2, .addReader 3 1, .timer .pubClose,
     .timer .pubReady, .describe 4]).2.drop 3 =
  [[.disarm .pubClose, .arm .pubReady], [], [.ignored],
   [.reply 2 .timedOut, .reply 3 .timedOut, .hook .demand false],
   [.hook .demand true, .arm .pubReady]] := by decide

end MtxVerif.C19
