/-
C22 — remuxing preserves media and injects current parameters at keyframes.  Property theorems.

Property at full strength: `delivered264` / `params_latest264` (H264), `delivered265_full` /
`params_latest265_full` (H265 — FALSE for the code as written, finding F-C22; `_partial`, `_witness`,
`_fixed` below), `remuxAV1_eq` (AV1), `m4v_config_before_gov` / `m4v_unaltered` / `m4v_params_latest`
(MPEG-4 Video).
-/
import MtxVerif.Model.C22

namespace MtxVerif.C22

theorem rev_ind {α : Type} {P : List α → Prop} (h0 : P [])
    (hs : ∀ a n, P a → P (a ++ [n])) (l : List α) : P l := by
  have : ∀ r : List α, P r.reverse := by
    intro r
    induction r with
    | nil => exact h0
    | cons x xs ih => rw [List.reverse_cons]; exact hs _ _ ih
  simpa using this l.reverse

theorem latest_append (isK : NALU → Bool) (init : Option Bytes) (a b : List NALU) :
    latest isK init (a ++ b) = latest isK (latest isK init a) b := by
  induction a generalizing init with
  | nil => rfl
  | cons n r ih => simp [latest, ih]

/-- `latest` is "the last in-band parameter set of the kind, else the initial value". -/
theorem latest_eq_getLast (isK : NALU → Bool) (init : Option Bytes) (l : List NALU) :
    latest isK init l = (match (l.filter isK).getLast? with | some x => some x | none => init) := by
  induction l using rev_ind with
  | h0 => rfl
  | hs a n ih =>
    rw [latest_append, List.filter_append]
    by_cases hk : isK n = true
    · simp [latest, hk]
    · simp [latest, hk, ih]

theorem updFmt_as_latest (isK : NALU → Bool) (old cur : Option Bytes) (au : AU) :
    updFmt isK old cur au = latest (fun n => isK n && !bytesEq n old) cur au := by
  induction au generalizing cur with
  | nil => rfl
  | cons n r ih => simp [updFmt, latest, ih]

theorem bytesEq_some {n : NALU} {cur : Option Bytes} (hn : n ≠ []) (h : bytesEq n cur = true) :
    cur = some n := by
  cases cur with
  | none => simp [bytesEq] at h; exact absurd h hn
  | some c => simp [bytesEq] at h; rw [h]

/-- The H264-style updater (compare with the running value) tracks the latest in-band parameter set. -/
theorem updRun_eq_latest (isK : NALU → Bool) (hne : ∀ n, isK n = true → n ≠ [])
    (cur : Option Bytes) (au : AU) : updRun isK cur au = latest isK cur au := by
  induction au generalizing cur with
  | nil => rfl
  | cons n r ih =>
    unfold updRun latest
    rw [ih]
    congr 1
    by_cases hk : isK n = true
    · by_cases he : bytesEq n cur = true
      · simp [hk, bytesEq_some (hne n hk) he]
      · simp [hk, he]
    · simp [hk]

theorem latest_eq_init_iff (K : NALU → Bool) (init : Option Bytes) (hK : ∀ n, K n = true → some n ≠ init)
    (a : List NALU) : latest K init a = init ↔ a.any K = false := by
  induction a using rev_ind with
  | h0 => simp [latest]
  | hs a n ih =>
    rw [latest_append]
    by_cases hk : K n = true
    · simp [latest, hk, hK n hk]
    · simp [latest, hk, ih]

theorem staleK_snoc (isK : NALU → Bool) (old : Option Bytes) (a : AU) (n : NALU) :
    staleK isK old (a ++ [n]) =
      if isK n then (a.any (fun m => isK m && !bytesEq m old) || !bytesEq n old) && bytesEq n old
      else staleK isK old a := by
  unfold staleK
  by_cases hk : isK n = true
  · simp [hk, List.filter_append, List.getLast?_append, List.any_filter]
  · simp [hk, List.filter_append]

/-- F-C22, exact: the H265-style updater (compare with the format's value) yields the latest in-band
parameter set **iff** the access unit is not in the class `staleK`. -/
theorem updFmt_eq_latest_iff (isK : NALU → Bool) (hne : ∀ n, isK n = true → n ≠ [])
    (old : Option Bytes) (au : AU) :
    updFmt isK old old au = latest isK old au ↔ staleK isK old au = false := by
  rw [updFmt_as_latest]
  induction au using rev_ind with
  | h0 => simp [latest, staleK]
  | hs a n ih =>
    rw [latest_append, latest_append, staleK_snoc]
    by_cases hk : isK n = true
    · by_cases he : bytesEq n old = true
      · have hold : old = some n := bytesEq_some (hne n hk) he
        have h2 := latest_eq_init_iff (fun n => isK n && !bytesEq n old) old
          (by
            intro m hm e
            simp only [Bool.and_eq_true, Bool.not_eq_true'] at hm
            rw [← e] at hm
            simp [bytesEq] at hm) a
        simp only [latest, hk, he, if_true, Bool.not_true, Bool.and_false, Bool.false_eq_true,
          if_false, Bool.or_false, Bool.and_true]
        rw [← hold]
        exact h2
      · have he' : bytesEq n old = false := by simpa using he
        simp [latest, hk, he']
    · have hk' : isK n = false := by simpa using hk
      simp only [latest, hk', Bool.false_and, Bool.false_eq_true, if_false]
      exact ih

theorem updFmt_eq_updRun (isK : NALU → Bool) (hne : ∀ n, isK n = true → n ≠ [])
    (old : Option Bytes) (au : AU) (h : staleK isK old au = false) :
    updFmt isK old old au = updRun isK old au := by
  rw [updRun_eq_latest isK hne]; exact (updFmt_eq_latest_iff isK hne old au).mpr h

theorem ne_nil_of_not_isEmpty {n : NALU} {b : Bool} (h : (!n.isEmpty && b) = true) : n ≠ [] := by
  intro e; subst e; simp at h

theorem isSPS264_ne (n : NALU) (h : isSPS264 n = true) : n ≠ [] := ne_nil_of_not_isEmpty h
theorem isPPS264_ne (n : NALU) (h : isPPS264 n = true) : n ≠ [] := ne_nil_of_not_isEmpty h
theorem isVPS265_ne (n : NALU) (h : isVPS265 n = true) : n ≠ [] := ne_nil_of_not_isEmpty h
theorem isSPS265_ne (n : NALU) (h : isSPS265 n = true) : n ≠ [] := ne_nil_of_not_isEmpty h
theorem isPPS265_ne (n : NALU) (h : isPPS265 n = true) : n ≠ [] := ne_nil_of_not_isEmpty h

theorem key264_not_dropped (n : NALU) (h : isIDR264 n = true) : drop264 n = false := by
  simp only [isIDR264, Bool.and_eq_true, beq_iff_eq] at h
  simp [drop264, isSPS264, isPPS264, isAUD264, h.2]

theorem key265_not_dropped (n : NALU) (h : isKey265 n = true) : drop265 n = false := by
  simp only [isKey265, Bool.and_eq_true, Bool.or_eq_true, beq_iff_eq] at h
  rcases h.2 with (h' | h') | h' <;>
    simp [drop265, isVPS265, isSPS265, isPPS265, isAUD265, h']

theorem pass1_aux (isDrop isKey : NALU → Bool) (k : Nat) (known : Bool)
    (hd : ∀ n, isKey n = true → isDrop n = false) (au : AU) (b : Bool) (m : Nat) :
    au.foldl (pass1Step isDrop isKey k known) (b, m)
    = (b || au.any isKey,
       m + (au.filter (fun n => !isDrop n)).length + (if !b && au.any isKey && known then k else 0)) := by
  induction au generalizing b m with
  | nil => simp
  | cons n r ih =>
    rw [List.foldl_cons, pass1Step]
    cases hK : isKey n with
    | true =>
      -- a key frame is not dropped; it adds `k` if it is the first one, and sets the flag for the rest
      simp only [hd n hK, ih, List.any_cons, hK, List.filter_cons]
      cases b <;> cases known <;> simp <;> omega
    | false =>
      cases hD : isDrop n <;> simp [ih, hK, hD] <;> omega

theorem fill_length (items : List NALU) : fill items.length items = .ok items := by
  unfold fill
  split
  · next h => rw [List.length_eq_zero_iff.mp h]
  · simp

/-- The counting loop computes exactly the length of what the filling loop writes: no index panic, no
nil holes, and the result is the property's expected unit. -/
theorem remuxGen_eq (isDrop isKey : NALU → Bool) (pre : List NALU) (known : Bool)
    (hd : ∀ n, isKey n = true → isDrop n = false) (au : AU) (hne : hasEmpty au = false) :
    remuxGen isDrop isKey pre known au = .ok (expected isDrop isKey pre known au) := by
  unfold remuxGen pass1 expected
  rw [hne, pass1_aux isDrop isKey pre.length known hd]
  simp only [Bool.false_eq_true, if_false, Bool.false_or, Bool.not_false, Bool.true_and, Nat.zero_add]
  have hcount : (au.filter (fun n => !isDrop n)).length + (if (au.any isKey && known) = true then pre.length else 0) =
      ((if (au.any isKey && known) = true then pre else []) ++ au.filter (fun n => !isDrop n)).length := by
    split <;> simp [Nat.add_comm]
  rw [hcount, fill_length]

/-- H264 remuxer = the property's expected unit. -/
theorem remux264_eq (p : P264) (au : AU) (hne : hasEmpty au = false) :
    remux264 p au = .ok (expected264 p au) :=
  remuxGen_eq _ _ _ _ key264_not_dropped au hne

theorem remux265_eq (p : P265) (au : AU) (hne : hasEmpty au = false) :
    remux265 p au = .ok (expected265 p au) :=
  remuxGen_eq _ _ _ _ key265_not_dropped au hne

/-- AV1: temporal delimiters are removed, nothing else is altered (order kept). -/
theorem remuxAV1_eq (tu : AU) (hne : hasEmpty tu = false) :
    remuxAV1 tu = .ok (tu.filter (fun o => !isTD o)) := by
  unfold remuxAV1
  rw [remuxGen_eq _ _ _ _ (by intro n h; cases h) tu hne]
  simp [expected]

/-- an empty NAL unit / OBU is exactly the panic case -/
theorem remuxGen_panic_iff (isDrop isKey : NALU → Bool) (pre : List NALU) (known : Bool)
    (hd : ∀ n, isKey n = true → isDrop n = false) (au : AU) :
    remuxGen isDrop isKey pre known au = .panic ↔ hasEmpty au = true := by
  cases h : hasEmpty au with
  | true => simp [remuxGen, h]
  | false => rw [remuxGen_eq _ _ _ _ hd au h]; simp

/-- Nothing is invented: every NAL unit of a delivered unit is a current parameter set or a NAL unit
of the written unit; parameter sets and delimiters of the written unit are never passed on. -/
theorem expected_mem (isDrop isKey : NALU → Bool) (pre : List NALU) (known : Bool) (au : AU) (x : NALU)
    (hx : x ∈ expected isDrop isKey pre known au) : x ∈ pre ∨ (x ∈ au ∧ isDrop x = false) := by
  unfold expected at hx
  rcases List.mem_append.mp hx with h | h
  · split at h
    · exact Or.inl h
    · cases h
  · have := List.mem_filter.mp h
    exact Or.inr ⟨this.1, by simpa using this.2⟩

theorem upd264_eq_latest (p : P264) (au : AU) : upd264 p au = latest264 p au := by
  simp [upd264, latest264, updRun_eq_latest _ isSPS264_ne, updRun_eq_latest _ isPPS264_ne]

theorem upd265Fixed_eq_latest (p : P265) (au : AU) : upd265Fixed p au = latest265 p au := by
  simp [upd265Fixed, latest265, updRun_eq_latest _ isVPS265_ne, updRun_eq_latest _ isSPS265_ne,
    updRun_eq_latest _ isPPS265_ne]

/-- the code as written ends with the latest parameter sets (as the fix always does) exactly outside the
F-C22 class -/
theorem upd265_eq_latest_iff (p : P265) (au : AU) : upd265 p au = latest265 p au ↔ stale265 p au = false := by
  simp only [upd265, latest265, P265.mk.injEq, stale265, Bool.or_eq_false_iff, and_assoc,
    updFmt_eq_latest_iff _ isVPS265_ne, updFmt_eq_latest_iff _ isSPS265_ne, updFmt_eq_latest_iff _ isPPS265_ne]

/-- inside the class the code as written does NOT end with the latest parameter sets -/
theorem upd265_ne_latest (p : P265) (au : AU) (h : stale265 p au = true) :
    upd265 p au ≠ latest265 p au := by
  rw [Ne, upd265_eq_latest_iff, h]
  exact Bool.noConfusion

theorem step264_eq (p : P264) (au : AU) (h : hasEmpty au = false) :
    step264 p au = (latest264 p au, .ok (expected264 (latest264 p au) au)) := by
  simp [step264, h, upd264_eq_latest, remux264_eq _ _ h]

theorem step265Fixed_eq (p : P265) (au : AU) (h : hasEmpty au = false) :
    step265Fixed p au = (latest265 p au, .ok (expected265 (latest265 p au) au)) := by
  simp [step265Fixed, h, upd265Fixed_eq_latest, remux265_eq _ _ h]

theorem step265_eq (p : P265) (au : AU) (h : hasEmpty au = false) (hs : stale265 p au = false) :
    step265 p au = (latest265 p au, .ok (expected265 (latest265 p au) au)) := by
  simp [step265, h, (upd265_eq_latest_iff _ _).mpr hs, remux265_eq _ _ h]

/-- a step panics exactly on an access unit with an empty NAL unit, and leaves the parameters alone -/
theorem step264_panic_iff (p : P264) (au : AU) :
    (step264 p au).2 = .panic ↔ hasEmpty au = true := by
  cases h : hasEmpty au with
  | true => simp [step264, h]
  | false => rw [step264_eq p au h]; simp

theorem step265_panic_iff (p : P265) (au : AU) :
    (step265 p au).2 = .panic ↔ hasEmpty au = true := by
  cases h : hasEmpty au with
  | true => simp [step265, h]
  | false => simp [step265, h, remux265_eq _ _ h]

/-- the precondition "no empty NAL unit" (guaranteed by the RTP decoders and by the protocol readers,
see `unit.PayloadH264`: "each with at least 1 byte") -/
def NoEmpty (aus : List AU) : Prop := ∀ au ∈ aus, hasEmpty au = false

instance (aus : List AU) : Decidable (NoEmpty aus) := by unfold NoEmpty; infer_instance

/-- `step` tracks the parameters: on a unit without empty NAL units, under `good`, it lands on `lat` (the latest
parameters) and delivers `exp` of them -/
structure Tracks {σ : Type} (step : σ → AU → σ × Outcome AU) (lat : σ → List NALU → σ) (exp : σ → AU → AU)
    (good : σ → AU → Bool) : Prop where
  lat_app : ∀ p a b, lat p (a ++ b) = lat (lat p a) b
  lat_nil : ∀ p, lat p [] = p
  step_eq : ∀ p au, hasEmpty au = false → good p au = true → step p au = (lat p au, .ok (exp (lat p au) au))

/-- Generic history theorem: after any history of a tracking step the parameters are the latest over the whole
history and the i-th delivered unit carries the latest parameters over units `0..i`. -/
theorem runG_spec {σ : Type} {step : σ → AU → σ × Outcome AU} {lat : σ → List NALU → σ}
    {exp : σ → AU → AU} {good : σ → AU → Bool} (T : Tracks step lat exp good)
    (p : σ) (aus : List AU) (hne : NoEmpty aus) (hg : goodRun good step p aus = true) :
    (runG step p aus).1 = lat p aus.flatten ∧
    ∀ i au, aus[i]? = some au →
      (runG step p aus).2[i]? = some (Outcome.ok (exp (lat p (aus.take (i + 1)).flatten) au)) := by
  obtain ⟨lat_app, lat_nil, hstep⟩ := T
  induction aus generalizing p with
  | nil => simp [runG, lat_nil]
  | cons a r ih =>
    simp only [goodRun, Bool.and_eq_true] at hg
    have hs := hstep p a (hne a List.mem_cons_self) hg.1
    rw [hs] at hg
    have := ih (lat p a) (fun au hau => hne au (List.mem_cons_of_mem _ hau)) hg.2
    simp only [runG, hs, List.flatten_cons, lat_app]
    refine ⟨this.1, ?_⟩
    intro i au hi
    cases i with
    | zero =>
      simp only [List.getElem?_cons_zero, Option.some.injEq] at hi
      subst hi
      simp
    | succ j =>
      simp only [List.getElem?_cons_succ] at hi
      simp only [List.getElem?_cons_succ, List.take_succ_cons, List.flatten_cons, lat_app]
      exact this.2 j au hi

theorem goodRun_true {σ : Type} (step : σ → AU → σ × Outcome AU) (p : σ) (aus : List AU) :
    goodRun (fun _ _ => true) step p aus = true := by
  induction aus generalizing p with
  | nil => rfl
  | cons a r ih => simp [goodRun, ih]

theorem tracks264 : Tracks step264 latest264 expected264 (fun _ _ => true) :=
  ⟨by simp [latest264, latest_append], fun _ => rfl, fun p au hne _ => step264_eq p au hne⟩

/-- **C22, H264, parameters**: after any sequence of access units the parameters of the output format
(= what the published description reports: `outDesc` holds the same format object) are, for each kind,
the last one seen in-band, else the one of the session description. -/
theorem params_latest264 (p0 : P264) (aus : List AU) (h : NoEmpty aus) :
    (run264 p0 aus).1 = latest264 p0 aus.flatten :=
  (runG_spec tracks264 p0 aus h (goodRun_true _ _ _)).1

/-- **C22, H264, delivered units (full strength)**: the i-th delivered unit is the i-th written unit
without parameter sets and delimiters, in order, preceded — when it has an IDR and both parameter sets
are known — by the most recent SPS/PPS seen in-band up to and including that unit, else those of the
session description. -/
theorem delivered264 (p0 : P264) (aus : List AU) (h : NoEmpty aus) (i : Nat) (au : AU)
    (hi : aus[i]? = some au) :
    (run264 p0 aus).2[i]? = some (.ok (expected264 (latest264 p0 (aus.take (i + 1)).flatten) au)) :=
  (runG_spec tracks264 p0 aus h (goodRun_true _ _ _)).2 i au hi

/-- The same two statements for H265 — the property at full strength. -/
def params_latest265_full (run : P265 → List AU → P265 × List (Outcome AU)) : Prop :=
  ∀ (p0 : P265) (aus : List AU), NoEmpty aus → (run p0 aus).1 = latest265 p0 aus.flatten

def delivered265_full (run : P265 → List AU → P265 × List (Outcome AU)) : Prop :=
  ∀ (p0 : P265) (aus : List AU), NoEmpty aus → ∀ (i : Nat) (au : AU), aus[i]? = some au →
    (run p0 aus).2[i]? = some (.ok (expected265 (latest265 p0 (aus.take (i + 1)).flatten) au))

/-- With the proposed fix both hold unconditionally. -/
theorem tracks265Fixed : Tracks step265Fixed latest265 expected265 (fun _ _ => true) :=
  ⟨by simp [latest265, latest_append], fun _ => rfl, fun p au hne _ => step265Fixed_eq p au hne⟩

theorem params_latest265_fixed : params_latest265_full run265Fixed :=
  fun p0 aus h => (runG_spec tracks265Fixed p0 aus h (goodRun_true _ _ _)).1

theorem delivered265_fixed : delivered265_full run265Fixed :=
  fun p0 aus h => (runG_spec tracks265Fixed p0 aus h (goodRun_true _ _ _)).2

/-- Code as written: both hold for every history that never enters the class `stale265`. -/
theorem tracks265 : Tracks step265 latest265 expected265 (fun p au => !stale265 p au) :=
  ⟨by simp [latest265, latest_append], fun _ => rfl, fun p au hne hg => step265_eq p au hne (by simpa using hg)⟩

theorem params_latest265_partial (p0 : P265) (aus : List AU) (h : NoEmpty aus)
    (hs : noStaleRun p0 aus = true) : (run265 p0 aus).1 = latest265 p0 aus.flatten :=
  (runG_spec tracks265 p0 aus h hs).1

theorem delivered265_partial (p0 : P265) (aus : List AU) (h : NoEmpty aus)
    (hs : noStaleRun p0 aus = true) (i : Nat) (au : AU) (hi : aus[i]? = some au) :
    (run265 p0 aus).2[i]? = some (.ok (expected265 (latest265 p0 (aus.take (i + 1)).flatten) au)) :=
  (runG_spec tracks265 p0 aus h hs).2 i au hi

/-- F-C22 witness: format VPS = `4002`; one access unit `[VPS 4001, VPS 4002, SPS, PPS, IDR]`. -/
def wP0 : P265 := ⟨some [0x40, 2], some [0x42, 1], some [0x44, 1]⟩
def wAU : AU := [[0x40, 1], [0x40, 2], [0x26, 9]]

/-- … the code ends with VPS `4001` although `4002` was the last one seen, -/
theorem params_latest265_witness : ¬ params_latest265_full run265 := by
  intro h
  have := h wP0 [wAU] (by decide)
  revert this
  decide +kernel

/-- … and the key frame of that very unit is delivered with the stale VPS. -/
theorem delivered265_witness : ¬ delivered265_full run265 := by
  intro h
  have := h wP0 [wAU] (by decide) 0 wAU rfl
  revert this
  decide +kernel

/-- **sub-stream switch, H264**: when a sub stream whose description carries an SPS and a PPS takes over, the
parameters of the output format (= injected at the following key frames, = reported by the description)
become exactly those, whatever was there before (a previous publisher's, the offline clip's …); the
transfer unit itself delivers nothing. -/
theorem switch264_params (st : P264) (s p : NALU) (hs : isSPS264 s = true) (hp : isPPS264 p = true) :
    switch264 st ⟨some s, some p⟩ = (⟨some s, some p⟩, .ok []) := by
  obtain ⟨hs1, hs2⟩ : s.isEmpty = false ∧ typ264 s = 7 := by simpa [isSPS264] using hs
  obtain ⟨hp1, hp2⟩ : p.isEmpty = false ∧ typ264 p = 8 := by simpa [isPPS264] using hp
  simp only [switch264, subAU264]
  rw [step264_eq st [s, p] (by simp [hasEmpty, hs1, hp1])]
  simp [latest264, latest, expected264, expected, isSPS264, isPPS264, isIDR264, drop264, hs1, hs2, hp1, hp2]

/-- without a complete set in the description nothing is transferred (the previous parameters stay until
in-band ones arrive) -/
theorem switch264_incomplete (st d : P264) (h : d.sps = none ∨ d.pps = none) : switch264 st d = (st, .ok []) := by
  rcases h with h | h <;> simp [switch264, subAU264, h]

/-- **sub-stream switch, H265** (updater comparing with the running value, as on HEAD after the F-C22 fix) -/
theorem switch265Fixed_params (st : P265) (v s p : NALU) (hv : isVPS265 v = true) (hs : isSPS265 s = true)
    (hp : isPPS265 p = true) :
    switch265Fixed st ⟨some v, some s, some p⟩ = (⟨some v, some s, some p⟩, .ok []) := by
  obtain ⟨hv1, hv2⟩ : v.isEmpty = false ∧ typ265 v = 32 := by simpa [isVPS265] using hv
  obtain ⟨hs1, hs2⟩ : s.isEmpty = false ∧ typ265 s = 33 := by simpa [isSPS265] using hs
  obtain ⟨hp1, hp2⟩ : p.isEmpty = false ∧ typ265 p = 34 := by simpa [isPPS265] using hp
  simp only [switch265Fixed, subAU265]
  rw [step265Fixed_eq st [v, s, p] (by simp [hasEmpty, hv1, hs1, hp1])]
  simp [latest265, latest, expected265, expected, isVPS265, isSPS265, isPPS265, isKey265, drop265,
    hv1, hv2, hs1, hs2, hp1, hp2]

theorem indexOf_prefix (pat : Bytes) (s : Bytes) (e : Nat) (h : indexOf pat s = some e) :
    pat.isPrefixOf (s.drop e) = true := by
  fun_induction indexOf pat s generalizing e with
  | case1 hp => cases h; simpa using hp
  | case2 => cases h
  | case3 x r hp => cases h; exact hp
  | case4 x r hp ih =>
    obtain ⟨k, hk, rfl⟩ := Option.map_eq_some_iff.mp h
    exact ih k hk

theorem vos_prefix_split (frame : Bytes) (h : vosSC.isPrefixOf frame = true) :
    ∃ rest, frame = 0 :: 0 :: 1 :: 0xB0 :: rest := by
  rcases frame with _ | ⟨a, _ | ⟨b, _ | ⟨c, _ | ⟨d, rest⟩⟩⟩⟩
  all_goals simp [vosSC, List.isPrefixOf] at h
  obtain ⟨rfl, rfl, rfl, rfl⟩ := h
  exact ⟨rest, rfl⟩

/-- a frame that starts with the VOS start code has no GOV start code in its first 4 positions -/
theorem containsGOV_vos (frame : Bytes) (h : vosSC.isPrefixOf frame = true) :
    containsGOV frame = (indexOf govSC (frame.drop 4)).isSome := by
  obtain ⟨rest, rfl⟩ := vos_prefix_split frame h
  simp [containsGOV, indexOf, govSC, List.isPrefixOf]

theorem inbandCfg_eq_some (frame conf : Bytes) (h : inbandCfg frame = some conf) :
    vosSC.isPrefixOf frame = true ∧ ∃ e, indexOf govSC (frame.drop 4) = some e ∧ conf = frame.take (e + 4) := by
  revert h
  fun_cases inbandCfg frame with
  | case1 hv e he => intro h; exact ⟨hv, e, he, (Option.some.inj h).symm⟩
  | case2 => intro h; cases h
  | case3 => intro h; cases h

/-- frame with an in-band configuration: it becomes the current one and the frame is delivered
unchanged (config stripped, then the — identical — current config put back). -/
theorem m4v_inband (cfg frame conf : Bytes) (h : inbandCfg frame = some conf) :
    stepM4V cfg frame = (conf, frame) ∧ conf <+: frame := by
  obtain ⟨hv, e, hi, rfl⟩ := inbandCfg_eq_some frame conf h
  have hp := indexOf_prefix _ _ _ hi
  rw [List.drop_drop, Nat.add_comm] at hp
  have hc : containsGOV (frame.drop (e + 4)) = true := by
    unfold containsGOV
    cases hd : frame.drop (e + 4) with
    | nil => rw [hd] at hp; simp [govSC] at hp
    | cons x r => rw [hd] at hp; simp [indexOf, hp]
  have hu : updM4V cfg frame = frame.take (e + 4) := by
    simp only [updM4V, hv, if_true, hi]
    split
    · rfl
    · next hne => exact (by simpa using hne : frame.take (e + 4) = cfg).symm
  refine ⟨?_, List.take_prefix _ _⟩
  simp only [stepM4V, hu, remuxM4V, hv, if_true, hi, hc, List.take_append_drop]

/-- frame without in-band configuration: parameters unchanged; the current config is put in front iff
the frame contains a GOV start code. -/
theorem m4v_plain (cfg frame : Bytes) (h : inbandCfg frame = none) :
    stepM4V cfg frame = (cfg, if containsGOV frame then cfg ++ frame else frame) := by
  revert h
  fun_cases inbandCfg frame with
  | case1 => intro h; cases h
  | case2 hv hi => intro _; simp [stepM4V, updM4V, remuxM4V, hv, hi, containsGOV_vos frame hv]
  | case3 hv => intro _; simp [stepM4V, updM4V, remuxM4V, hv]
theorem inbandCfg_gov (frame conf : Bytes) (h : inbandCfg frame = some conf) : containsGOV frame = true := by
  obtain ⟨hv, e, hi, -⟩ := inbandCfg_eq_some frame conf h
  rw [containsGOV_vos frame hv, hi]
  rfl

/-- **C22, MPEG-4 Video**: whenever a delivered frame contains a GOV it starts with the current
configuration (the one the description reports after this frame), followed by a tail of the written frame. -/
theorem m4v_config_before_gov (cfg frame : Bytes) (h : containsGOV (stepM4V cfg frame).2 = true) :
    ∃ body, (stepM4V cfg frame).2 = (stepM4V cfg frame).1 ++ body ∧ body <:+ frame := by
  cases hi : inbandCfg frame with
  | some conf =>
    obtain ⟨h1, t, ht⟩ := m4v_inband cfg frame conf hi
    rw [h1]
    exact ⟨t, ht.symm, conf, ht⟩
  | none =>
    rw [m4v_plain cfg frame hi] at h ⊢
    cases hg : containsGOV frame with
    | true => exact ⟨frame, rfl, List.suffix_refl _⟩
    | false => simp [hg] at h

/-- … and a frame without GOV is passed on unaltered, the configuration stays. -/
theorem m4v_unaltered (cfg frame : Bytes) (h : containsGOV frame = false) :
    stepM4V cfg frame = (cfg, frame) := by
  cases hi : inbandCfg frame with
  | some conf => rw [inbandCfg_gov frame conf hi] at h; cases h
  | none => rw [m4v_plain cfg frame hi]; simp [h]

/-- the delivered frame is never longer than config + frame and always ends with a tail of the frame -/
theorem m4v_tail (cfg frame : Bytes) : ∃ pre body, (stepM4V cfg frame).2 = pre ++ body ∧ body <:+ frame ∧
    (pre = [] ∨ pre = (stepM4V cfg frame).1) := by
  cases hi : inbandCfg frame with
  | some conf =>
    rw [(m4v_inband cfg frame conf hi).1]
    exact ⟨[], frame, rfl, List.suffix_refl _, Or.inl rfl⟩
  | none =>
    rw [m4v_plain cfg frame hi]
    cases containsGOV frame with
    | true => exact ⟨cfg, frame, rfl, List.suffix_refl _, Or.inr rfl⟩
    | false => exact ⟨[], frame, rfl, List.suffix_refl _, Or.inl rfl⟩

theorem stepM4V_cfg (cfg frame : Bytes) : (stepM4V cfg frame).1 = (inbandCfg frame).getD cfg := by
  cases hi : inbandCfg frame with
  | some conf => rw [(m4v_inband cfg frame conf hi).1]; rfl
  | none => rw [m4v_plain cfg frame hi]; rfl

/-- after any frame sequence the configuration is the last one seen in-band, else the initial one -/
theorem m4v_params_latest (cfg : Bytes) (frames : List Bytes) :
    (runM4V cfg frames).1 = latestCfg cfg frames := by
  induction frames generalizing cfg with
  | nil => rfl
  | cons f r ih => simp only [runM4V, latestCfg, ih, stepM4V_cfg]

-- SPS 67.., PPS 68.., AUD 09, IDR 65, non-IDR 41
example : run264 ⟨none, none⟩ [[[0x09, 0xF0], [0x67, 1], [0x68, 2], [0x65, 3]], [[0x41, 4]], [[0x65, 5]]]
    = (⟨some [0x67, 1], some [0x68, 2]⟩,
       [.ok [[0x67, 1], [0x68, 2], [0x65, 3]], .ok [[0x41, 4]], .ok [[0x67, 1], [0x68, 2], [0x65, 5]]]) := by
  decide +kernel
-- only parameters: nil payload out
example : step264 ⟨none, none⟩ [[0x67, 1], [0x09]] = (⟨some [0x67, 1], none⟩, .ok []) := by decide +kernel
-- IDR but PPS unknown: nothing prepended
example : (step264 ⟨some [0x67, 1], none⟩ [[0x65, 3]]).2 = .ok [[0x65, 3]] := by decide +kernel
example : (step264 ⟨none, none⟩ [[0x65, 3], []]).2 = .panic := by decide +kernel
example : NoEmpty [[[0x65, 3]]] := by decide +kernel
example : noStaleRun wP0 [[[0x40, 1]], [[0x40, 2]]] = true := by decide +kernel
example : stale265 wP0 wAU = true := by decide +kernel
example : (step265 wP0 wAU).1.vps = some [0x40, 1] := by decide +kernel
example : (step265Fixed wP0 wAU).1.vps = some [0x40, 2] := by decide +kernel
-- publisher parameters are replaced by the offline clip's when the stream goes offline again
example : (switch264 ⟨some [0x67, 9], some [0x68, 9]⟩ ⟨some [0x67, 1], some [0x68, 1]⟩).1 =
    ⟨some [0x67, 1], some [0x68, 1]⟩ := by decide +kernel
example : remuxAV1 [[0x12, 0], [0x0A, 1], [0x32, 2]] = .ok [[0x0A, 1], [0x32, 2]] := by decide +kernel
example : stepM4V [9] [0, 0, 1, 0xB0, 7, 0, 0, 1, 0xB3, 5] = ([0, 0, 1, 0xB0, 7], [0, 0, 1, 0xB0, 7, 0, 0, 1, 0xB3, 5]) := by
  decide +kernel
example : stepM4V [9] [0, 0, 1, 0xB3, 5] = ([9], [9, 0, 0, 1, 0xB3, 5]) := by decide +kernel
example : stepM4V [9] [0, 0, 1, 0xB6, 5] = ([9], [0, 0, 1, 0xB6, 5]) := by decide +kernel

end MtxVerif.C22
