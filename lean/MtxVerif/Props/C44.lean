/-
C44 — API list pagination partitions results.  Property theorems only.
-/
import MtxVerif.Model.C44

namespace MtxVerif.C44

/-- Pages are consecutive slices: page `p` is `items[p*ipp : p*ipp+ipp]` clipped to the list. -/
theorem page_eq_drop_take (l : List α) (ipp p : Nat) :
    page l ipp p = (l.drop (p * ipp)).take ipp := by
  unfold page lo hi
  split
  · rename_i h0
    rw [List.length_eq_zero_iff.mp h0]; simp
  · rw [Nat.succ_mul]
    rcases Nat.le_total (p * ipp) l.length with h | h
    · rw [Nat.min_eq_left h, List.take_eq_take_iff, List.length_drop]
      omega
    · rw [Nat.min_eq_right h, List.drop_of_length_le h, List.drop_of_length_le (Nat.le_refl _),
        List.take_nil, List.take_nil]

theorem flatMap_pages_take (l : List α) (ipp n : Nat) :
    (List.range n).flatMap (fun i => page l ipp i) = l.take (n * ipp) := by
  induction n with
  | zero => simp
  | succ n ih =>
    rw [List.range_succ, List.flatMap_append, ih]
    simp only [List.flatMap_cons, List.flatMap_nil, List.append_nil]
    rw [page_eq_drop_take, Nat.add_mul, Nat.one_mul, List.take_add]

theorem pageCount_bounds (len ipp : Nat) (h : 0 < ipp) :
    len ≤ pageCount len ipp * ipp ∧ pageCount len ipp * ipp < len + ipp := by
  have hd := Nat.div_add_mod len ipp
  have hm := Nat.mod_lt len h
  unfold pageCount
  rw [Nat.mul_comm]
  split
  · omega
  · rw [Nat.mul_add]
    split <;> omega

/-- **Main theorem**: concatenating pages `0 … pageCount-1` yields the whole list, for every list and
every positive `itemsPerPage`. -/
theorem concat_pages (l : List α) (ipp : Nat) (h : 0 < ipp) :
    (List.range (pageCount l.length ipp)).flatMap (fun i => page l ipp i) = l := by
  rw [flatMap_pages_take]
  exact List.take_of_length_le (pageCount_bounds l.length ipp h).1

/-- Each page has at most `itemsPerPage` items. -/
theorem page_len (l : List α) (ipp p : Nat) : (page l ipp p).length ≤ ipp := by
  rw [page_eq_drop_take, List.length_take]; omega

/-- Pages past the end are empty. -/
theorem beyond_empty (l : List α) (ipp p : Nat) (h : 0 < ipp) (hp : pageCount l.length ipp ≤ p) :
    page l ipp p = [] := by
  rw [page_eq_drop_take]
  have h1 := (pageCount_bounds l.length ipp h).1
  have h2 : pageCount l.length ipp * ipp ≤ p * ipp := Nat.mul_le_mul_right _ hp
  rw [List.drop_of_length_le (by omega), List.take_nil]

/-- `pageCount = ⌈len / ipp⌉`. -/
theorem pageCount_ceil (len ipp : Nat) (h : 0 < ipp) :
    pageCount len ipp = (len + ipp - 1) / ipp := by
  have hb := pageCount_bounds len ipp h
  refine (Nat.div_eq_of_lt_le ?_ ?_).symm
  · omega
  · rw [Nat.succ_mul]; omega

theorem parseUint31_some {s : Bytes} {v : Nat} (h : parseUint31 s = some v) :
    (∀ c ∈ s, 48 ≤ c.toNat ∧ c.toNat ≤ 57) ∧ v < 2 ^ 31 := by
  simp only [parseUint31, Option.ite_none_left_eq_some, Option.ite_none_right_eq_some, List.all_eq_true,
    decide_eq_true_eq, Option.some.injEq] at h
  obtain ⟨_, hd, hlt, rfl⟩ := h
  exact ⟨hd, hlt⟩

theorem parseParams_some {a b : Bytes} {ipp p : Nat} (h : parseParams a b = some (ipp, p)) :
    (a.isEmpty = true ∧ ipp = 100 ∨ 0 < ipp ∧ parseUint31 a = some ipp) ∧
    (b.isEmpty = true ∧ p = 0 ∨ parseUint31 b = some p) := by
  have page : ∀ i, (if b.isEmpty then some (i, 0) else
        match parseUint31 b with | none => none | some p => some (i, p)) = some (ipp, p) →
      i = ipp ∧ (b.isEmpty = true ∧ p = 0 ∨ parseUint31 b = some p) := by
    intro i hb
    split at hb
    · cases hb; exact ⟨rfl, .inl ⟨‹_›, rfl⟩⟩
    · split at hb
      · cases hb
      · cases hb; exact ⟨rfl, .inr ‹_›⟩
  unfold parseParams at h
  split at h
  · obtain ⟨rfl, hp⟩ := page 100 h
    exact ⟨.inl ⟨‹_›, rfl⟩, hp⟩
  · split at h
    · cases h
    · cases h
    · rename_i v h0 hv
      obtain ⟨rfl, hp⟩ := page v h
      exact ⟨.inr ⟨Nat.pos_of_ne_zero (h0 ·), hv⟩, hp⟩

/-- Parsed parameters are below 2^31, so the int64 products in `paginate2` cannot wrap. -/
theorem products_fit (a b : Bytes) (ipp p : Nat) (h : parseParams a b = some (ipp, p)) :
    0 < ipp ∧ ipp < 2 ^ 31 ∧ p < 2 ^ 31 ∧ (p + 1) * ipp < 2 ^ 63 := by
  obtain ⟨hi, hp⟩ := parseParams_some h
  have hi : 0 < ipp ∧ ipp < 2 ^ 31 := by
    rcases hi with ⟨_, rfl⟩ | ⟨h0, hv⟩
    · decide
    · exact ⟨h0, (parseUint31_some hv).2⟩
  have hp : p < 2 ^ 31 := by
    rcases hp with ⟨_, rfl⟩ | hv
    · decide
    · exact (parseUint31_some hv).2
  refine ⟨hi.1, hi.2, hp, ?_⟩
  calc (p + 1) * ipp ≤ 2 ^ 31 * 2 ^ 31 := Nat.mul_le_mul (by omega) (by omega)
    _ < 2 ^ 63 := by decide

/-- Invalid parameters are rejected: anything that is not a decimal number below 2^31, and 0 items per page. -/
theorem invalid_rejected (a b : Bytes) :
    (a ≠ [] ∧ (parseUint31 a = none ∨ parseUint31 a = some 0)) ∨ (b ≠ [] ∧ parseUint31 b = none) →
    parseParams a b = none := by
  intro h
  cases hr : parseParams a b with
  | none => rfl
  | some r =>
    obtain ⟨ipp, p⟩ := r
    obtain ⟨hi, hp⟩ := parseParams_some hr
    rcases h with ⟨ha, hu⟩ | ⟨hb, hu⟩
    · rcases hi with ⟨he, _⟩ | ⟨h0, hv⟩
      · exact absurd (List.isEmpty_iff.mp he) ha
      · rw [hv] at hu
        rcases hu with hu | hu <;> cases hu
        exact absurd h0 (Nat.lt_irrefl 0)
    · rcases hp with ⟨he, _⟩ | hv
      · exact absurd (List.isEmpty_iff.mp he) hb
      · rw [hv] at hu; cases hu

theorem parseUint31_rejects_nondigit (s : Bytes) (c : UInt8) (hc : c ∈ s)
    (hnd : ¬ (48 ≤ c.toNat ∧ c.toNat ≤ 57)) : parseUint31 s = none := by
  cases h : parseUint31 s with
  | none => rfl
  | some v => exact absurd ((parseUint31_some h).1 c hc) hnd

/-- Non-vacuity: a concrete list, three pages, last one short. -/
example : (List.range (pageCount 7 3)).flatMap (fun i => page [10,11,12,13,14,15,16] 3 i)
    = [10,11,12,13,14,15,16] ∧ pageCount 7 3 = 3 ∧ page [10,11,12,13,14,15,16] 3 2 = [16] := by decide
example : parseParams (asc ['3']) (asc ['2']) = some (3, 2) := by decide
example : parseParams (asc ['0']) [] = none ∧ parseParams (asc ['-', '1']) [] = none
    ∧ parseParams (asc ['2','1','4','7','4','8','3','6','4','8']) [] = none
    ∧ parseParams (asc ['2','1','4','7','4','8','3','6','4','7']) [] = some (2147483647, 0) := by decide

end MtxVerif.C44
