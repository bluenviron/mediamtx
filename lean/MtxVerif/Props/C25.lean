/-
C25 — absolute timestamps track the wall clock.  Property theorems about the estimator automaton
(Model/C25.lean), over arbitrary sequences of (wall-clock reading, frame timestamp), including jumps.
-/
import MtxVerif.Model.C25
import MtxVerif.Lemmas.C24Arith

namespace MtxVerif.C25
open MtxVerif.C24

/-- first call (or estimator anchored at the zero instant): anchor at the wall clock -/
theorem step_init (rate : Int) (s : St) (now pts : Int) (h : s.refNTP = 0) :
    step rate s now pts = ({ refNTP := now, refPTS := pts }, some now) :=
  if_pos h

theorem step_some {rate : Int} {s : St} {pts dlt : Int} (h : s.refNTP ≠ 0) (hd : delta rate s pts = some dlt)
    (now : Int) :
    step rate s now pts =
      if s.refNTP + dlt > now ∨ s.refNTP + dlt < now - maxDiff then ({ refNTP := now, refPTS := pts }, some now)
      else (s, some (s.refNTP + dlt)) := by
  rw [step, if_neg h, hd]

/-- zero clock rate: the scaling panics, state unchanged (explicit outcome) -/
theorem step_panic (s : St) (now pts : Int) (h : s.refNTP ≠ 0) :
    step 0 s now pts = (s, none) := by
  rw [step, if_neg h, delta, muldiv, if_pos rfl]

/-- anchored estimate inside the window: it is returned and the anchor is kept -/
theorem step_anchored (rate : Int) (s : St) (now pts dlt : Int) (h : s.refNTP ≠ 0)
    (hd : delta rate s pts = some dlt)
    (hw : now - maxDiff ≤ s.refNTP + dlt ∧ s.refNTP + dlt ≤ now) :
    step rate s now pts = (s, some (s.refNTP + dlt)) := by
  rw [step_some h hd, if_neg (by omega)]

/-- **reset condition, exactly**: with an anchor and a non-panicking scaling, the estimator keeps its
anchor iff the anchored estimate lies in `[now - 5 s, now]`. -/
theorem keeps_anchor_iff (rate : Int) (s : St) (now pts dlt : Int) (h : s.refNTP ≠ 0)
    (hd : delta rate s pts = some dlt) (hne : s ≠ { refNTP := now, refPTS := pts }) :
    (step rate s now pts).1 = s ↔ (now - maxDiff ≤ s.refNTP + dlt ∧ s.refNTP + dlt ≤ now) := by
  rw [step_some h hd]
  split
  · exact ⟨fun hs => absurd hs.symm hne, fun hw => by omega⟩
  · exact ⟨fun _ => by omega, fun _ => rfl⟩

theorem step_cases (rate : Int) (s : St) (now pts : Int) :
    step rate s now pts = ({ refNTP := now, refPTS := pts }, some now) ∨
    (∃ dlt, now - maxDiff ≤ s.refNTP + dlt ∧ s.refNTP + dlt ≤ now ∧
      step rate s now pts = (s, some (s.refNTP + dlt))) ∨
    (rate = 0 ∧ step rate s now pts = (s, none)) := by
  by_cases h : s.refNTP = 0
  · exact .inl (step_init rate s now pts h)
  · cases hd : delta rate s pts with
    | none =>
      refine .inr (.inr ⟨?_, by rw [step, if_neg h, hd]⟩)
      rw [delta, muldiv] at hd
      split at hd
      · assumption
      · cases hd
    | some dlt =>
      rw [step_some h hd]
      split
      · exact .inl rfl
      · exact .inr (.inl ⟨dlt, by omega, by omega, rfl⟩)

/-- non-zero clock rate: `Estimate` never panics -/
theorem step_no_panic (rate : Int) (s : St) (now pts : Int) (hr : rate ≠ 0) :
    (step rate s now pts).2 ≠ none := by
  rcases step_cases rate s now pts with h | ⟨dlt, -, -, h⟩ | ⟨h, -⟩
  · rw [h]; nofun
  · rw [h]; nofun
  · exact absurd h hr

/-- **Bounds (one call)**: any returned timestamp is never later than the wall clock and never more than
5 s behind it.  No hypothesis on the state, the rate or the operands. -/
theorem step_bounds (rate : Int) (s : St) (now pts out : Int)
    (h : (step rate s now pts).2 = some out) : now - maxDiff ≤ out ∧ out ≤ now := by
  rcases step_cases rate s now pts with e | ⟨dlt, h1, h2, e⟩ | ⟨-, e⟩ <;> rw [e] at h <;> cases h
  · exact ⟨Int.sub_le_self now (by decide), Int.le_refl _⟩
  · exact ⟨h1, h2⟩

/-- outputs paired with their wall-clock readings -/
def BoundsOK : List (Int × Int) → List (Option Int) → Prop
  | [], [] => True
  | (now, _) :: hs, o :: os =>
    (match o with | none => True | some out => now - maxDiff ≤ out ∧ out ≤ now) ∧ BoundsOK hs os
  | _, _ => False

/-- **Bounds (whole history)**: for every initial state and every sequence of (wall clock, pts) — any
jumps, any values — every timestamp produced is within `[now_i - 5 s, now_i]` of its own reading. -/
theorem run_bounds (rate : Int) (hist : List (Int × Int)) :
    ∀ s : St, BoundsOK hist (run rate s hist).2 := by
  induction hist with
  | nil => exact fun _ => trivial
  | cons p rest ih =>
    intro s
    obtain ⟨now, pts⟩ := p
    refine ⟨?_, ih _⟩
    cases ho : (step rate s now pts).2 with
    | none => trivial
    | some out => exact step_bounds rate s now pts out ho

theorem run_length (rate : Int) (hist : List (Int × Int)) :
    ∀ s : St, (run rate s hist).2.length = hist.length := by
  induction hist with
  | nil => exact fun _ => rfl
  | cons p rest ih => exact fun s => congrArg (· + 1) (ih _)

/-- the clock runs steadily relative to the anchor of `s` over a history -/
def Steady (rate : Int) (s : St) (hist : List (Int × Int)) : Prop :=
  ∀ p ∈ hist, ∃ dlt, delta rate s p.2 = some dlt ∧
    p.1 - maxDiff ≤ s.refNTP + dlt ∧ s.refNTP + dlt ≤ p.1

/-- **Steady (whole history)**: from an anchored state, as long as every anchored estimate stays in its
window, the anchor never changes and every output is `refNTP + scale(pts_i - refPTS)` — each output is
computed from the one reference, so errors do not accumulate. -/
theorem steady_run (rate : Int) (hist : List (Int × Int)) (s : St) (h0 : s.refNTP ≠ 0)
    (hs : Steady rate s hist) :
    run rate s hist = (s, hist.map fun p => (delta rate s p.2).map (s.refNTP + ·)) := by
  induction hist with
  | nil => rfl
  | cons p rest ih =>
    obtain ⟨now, pts⟩ := p
    obtain ⟨dlt, hd, hw⟩ := hs (now, pts) List.mem_cons_self
    rw [run, step_anchored rate s now pts dlt h0 hd hw, ih fun q hq => hs q (List.mem_cons_of_mem _ hq),
      List.map_cons, hd]
    rfl

/-- **Consecutive timestamps differ by the scaled frame-timestamp difference**: any two outputs of a
steady run differ exactly by the difference of their scaled offsets from the common anchor. -/
theorem steady_diff (rate : Int) (s : St) (now₁ pts₁ now₂ pts₂ d₁ d₂ : Int) (h0 : s.refNTP ≠ 0)
    (hs : Steady rate s [(now₁, pts₁), (now₂, pts₂)])
    (h1 : delta rate s pts₁ = some d₁) (h2 : delta rate s pts₂ = some d₂) :
    ∃ o₁ o₂, (run rate s [(now₁, pts₁), (now₂, pts₂)]).2 = [some o₁, some o₂] ∧ o₂ - o₁ = d₂ - d₁ := by
  refine ⟨s.refNTP + d₁, s.refNTP + d₂, ?_, by omega⟩
  rw [steady_run rate _ s h0 hs, List.map_cons, List.map_cons, h1, h2]
  rfl

/-- In the exact range (rate in `1 … 2^32`, no wrap of `pts - refPTS`, scaled value representable) the
offset is the mathematically exact `(pts - refPTS) * 10^9 / rate`, truncated toward zero (uses C24). -/
theorem delta_exact (rate : Int) (s : St) (pts : Int) (h : exactRange rate s.refPTS pts = true) :
    delta rate s pts = some (exact (pts - s.refPTS) nsPerSec rate) := by
  simp only [exactRange, Bool.and_eq_true, decide_eq_true_eq, rateOK] at h
  obtain ⟨⟨hr, hp⟩, hx⟩ := h
  rw [delta, wrap64_of_in hp]
  exact ticks_to_ns_exact _ rate hr hx

theorem tdiv_sub_close (x₁ x₂ d : Int) (hd : 0 < d) (h1 : 0 ≤ x₁) (h2 : 0 ≤ x₂) :
    -d < d * (Int.tdiv x₂ d - Int.tdiv x₁ d) - (x₂ - x₁) ∧
    d * (Int.tdiv x₂ d - Int.tdiv x₁ d) - (x₂ - x₁) < d := by
  -- `d * (x / d) = x - r` with a remainder `0 ≤ r < d`, for both
  have a1 := Int.mul_tdiv_add_tmod x₁ d
  have a2 := Int.mul_tdiv_add_tmod x₂ d
  have b1 := Int.tmod_nonneg d h1
  have b2 := Int.tmod_nonneg d h2
  have c1 := Int.tmod_lt_of_pos x₁ hd
  have c2 := Int.tmod_lt_of_pos x₂ hd
  rw [Int.mul_sub]
  omega

/-- … and that exact offset difference is within one nanosecond of the real-valued scaled difference when
frame timestamps advance (`refPTS ≤ pts₁ ≤ pts₂`): `|rate·(e₂ - e₁) - (pts₂ - pts₁)·10^9| < rate`. -/
theorem exact_diff_within_1ns (rate p0 pts₁ pts₂ : Int) (hr : 0 < rate) (h1 : p0 ≤ pts₁) (h2 : pts₁ ≤ pts₂) :
    -rate < rate * (exact (pts₂ - p0) nsPerSec rate - exact (pts₁ - p0) nsPerSec rate)
        - (pts₂ - pts₁) * nsPerSec ∧
    rate * (exact (pts₂ - p0) nsPerSec rate - exact (pts₁ - p0) nsPerSec rate)
        - (pts₂ - pts₁) * nsPerSec < rate := by
  have h := tdiv_sub_close ((pts₁ - p0) * nsPerSec) ((pts₂ - p0) * nsPerSec) rate hr
    (Int.mul_nonneg (by omega) (by decide)) (Int.mul_nonneg (by omega) (by decide))
  rwa [← Int.sub_mul, show pts₂ - p0 - (pts₁ - p0) = pts₂ - pts₁ by omega] at h

/-- **Spec soundness w.r.t. the model**: on the model's own answer the executable spec never reports a
violation — for every state, rate, reading and timestamp (int64 operands).  Together with `step_bounds`
and `step_anchored` this is the property: bounds always, and the anchored estimate whenever it is in its
window. -/
theorem spec_accepts_model (rate : Int) (s : St) (last : Option Int) (now pts out : Int)
    (h : (step rate s now pts).2 = some out) :
    (specStep rate { refNTP := s.refNTP, refPTS := s.refPTS, lastPTS := last } now pts out
      (step rate s now pts).1.refNTP (step rate s now pts).1.refPTS).2 = none := by
  have hb := step_bounds rate s now pts out h
  simp only [specStep]
  rw [if_neg (by omega), if_neg (by omega)]
  -- a demand is made only in the exact range with the anchored estimate in its window: there it is the output
  refine ite_eq_right_iff.mpr fun hc => ite_eq_right_iff.mpr fun hw => ?_
  rw [step_anchored rate s now pts _ hc.1 (delta_exact rate s pts hc.2.2) hw] at h ⊢
  exact if_pos ⟨(Option.some.inj h).symm, rfl, rfl⟩

/-! ### the observable form of the property (Model/C25 `obsStep`) is met by the model

`obsStep` is what the check evaluates at the integration sites (`stream` always-available paths,
`hls.ToStream`), where only the emitted frames `(now, pts, ntp)` are visible.  The theorem below shows it
demands nothing the estimator does not deliver when it is fed the outgoing frame timestamps at the outgoing
clock rate: over every history, from the initial state. -/

/-- truncated division is additive up to 2 -/
theorem tdiv_add_close (x y d : Int) (hd : 0 < d) :
    -2 ≤ Int.tdiv (x + y) d - Int.tdiv x d - Int.tdiv y d ∧
    Int.tdiv (x + y) d - Int.tdiv x d - Int.tdiv y d ≤ 2 := by
  -- the difference `k` satisfies `k * d = r₁ + r₂ - r₃` for three remainders of absolute value below `d`
  have e1 := Int.tdiv_mul_add_tmod x d
  have e2 := Int.tdiv_mul_add_tmod y d
  have e3 := Int.tdiv_mul_add_tmod (x + y) d
  have u1 := Int.tmod_lt_of_pos x hd
  have u2 := Int.tmod_lt_of_pos y hd
  have u3 := Int.tmod_lt_of_pos (x + y) hd
  have l1 := Int.lt_tmod_of_pos x hd
  have l2 := Int.lt_tmod_of_pos y hd
  have l3 := Int.lt_tmod_of_pos (x + y) hd
  have hk : (Int.tdiv (x + y) d - Int.tdiv x d - Int.tdiv y d) * d
      = Int.tmod x d + Int.tmod y d - Int.tmod (x + y) d := by
    rw [Int.sub_mul, Int.sub_mul]; omega
  generalize Int.tdiv (x + y) d - Int.tdiv x d - Int.tdiv y d = k at hk
  have h1 : -3 * d < k * d := by omega
  have h2 : k * d < 3 * d := by omega
  have := Int.lt_of_mul_lt_mul_right h1 (Int.le_of_lt hd)
  have := Int.lt_of_mul_lt_mul_right h2 (Int.le_of_lt hd)
  omega

theorem exact_add_close (a b rate : Int) (hr : 0 < rate) :
    -2 ≤ exact (a + b) nsPerSec rate - exact a nsPerSec rate - exact b nsPerSec rate ∧
    exact (a + b) nsPerSec rate - exact a nsPerSec rate - exact b nsPerSec rate ≤ 2 := by
  unfold exact
  rw [Int.add_mul]
  exact tdiv_add_close _ _ rate hr

theorem exact_in_of_small (x rate : Int) (hx : -(2 ^ 33) ≤ x ∧ x ≤ 2 ^ 33) :
    InI64 (exact x nsPerSec rate) := by
  unfold exact nsPerSec InI64
  have h := Int.natAbs_tdiv_le_natAbs (x * 1000000000) rate
  omega

/-- the model's outputs over a history, as a trace of emitted frames -/
def modelTrace (rate : Int) : St → List (Int × Int) → List (Bool × Int × Int × Int)
  | _, [] => []
  | s, (now, pts) :: rest =>
    let r := step rate s now pts
    (true, now, pts, r.2.getD 0) :: modelTrace rate r.1 rest

/-- what links the observer's memory to the estimator's state -/
def ObsInv (rate : Int) (s : St) (o : Obs) : Prop :=
  match o.last with
  | none => s.refNTP = 0
  | some (pn, pp) =>
    o.small = true → (s.refNTP ≠ 0 ∧ ptsSmall s.refPTS = true ∧ ptsSmall pp = true ∧
      pn = s.refNTP + exact (pp - s.refPTS) nsPerSec rate)

theorem ObsInv.of_last {rate : Int} {s : St} {o : Obs} (hi : ObsInv rate s o) {pn pp : Int}
    (hl : o.last = some (pn, pp)) (hs : o.small = true) :
    s.refNTP ≠ 0 ∧ ptsSmall s.refPTS = true ∧ ptsSmall pp = true ∧
      pn = s.refNTP + exact (pp - s.refPTS) nsPerSec rate := by
  unfold ObsInv at hi
  rw [hl] at hi
  exact hi hs

theorem delta_small {rate : Int} (hr : rateOK rate = true) {s : St} {pts : Int}
    (h0 : ptsSmall s.refPTS = true) (hp : ptsSmall pts = true) :
    delta rate s pts = some (exact (pts - s.refPTS) nsPerSec rate) := by
  simp only [ptsSmall, decide_eq_true_eq] at h0 hp
  refine delta_exact rate s pts ?_
  simp only [exactRange, hr, Bool.true_and, Bool.and_eq_true, decide_eq_true_eq]
  exact ⟨by unfold InI64; omega, exact_in_of_small _ rate (by omega)⟩

/-- the observable spec is satisfied as soon as the bounds hold and, when a demand is made, it is met -/
theorem obsStep_ok (rOut tol : Int) (o : Obs) (sm : Bool) (now pts ntp : Int)
    (hb : now - maxDiff ≤ ntp ∧ ntp ≤ now)
    (hd : ∀ pn pp, o.last = some (pn, pp) → (o.small && ptsSmall pts && sm) = true → pp ≤ pts →
      now - maxDiff + tol ≤ pn + exact (pts - pp) nsPerSec rOut →
      pn + exact (pts - pp) nsPerSec rOut ≤ now + tol →
      ntp - (pn + exact (pts - pp) nsPerSec rOut) ≤ 2 * tol ∧
      (pn + exact (pts - pp) nsPerSec rOut) - ntp ≤ 2 * tol) :
    (obsStep rOut tol o sm now pts ntp).2 = none := by
  simp only [obsStep]
  rw [if_neg (by omega), if_neg (by omega)]
  cases hl : o.last with
  | none => rfl
  | some lp =>
    exact ite_eq_right_iff.mpr fun c1 => ite_eq_right_iff.mpr fun c2 =>
      if_pos (hd lp.1 lp.2 hl c1.1 c1.2.2 c2.1 c2.2)

theorem obsStep_model (rate : Int) (hr : rateOK rate = true) (s : St) (o : Obs) (now pts : Int)
    (hn : now ≠ 0) (hi : ObsInv rate s o) :
    (obsStep rate 4 o true now pts ((step rate s now pts).2.getD 0)).2 = none ∧
    ObsInv rate (step rate s now pts).1 (obsStep rate 4 o true now pts ((step rate s now pts).2.getD 0)).1 := by
  have hpos : 0 < rate := by
    have := of_decide_eq_true hr
    omega
  obtain ⟨out, hout⟩ := Option.ne_none_iff_exists'.mp (step_no_panic rate s now pts (Int.ne_of_gt hpos))
  have hb := step_bounds rate s now pts out hout
  rw [hout, Option.getD_some]
  have hm : maxDiff = 5000000000 := rfl
  constructor
  · refine obsStep_ok _ _ _ _ _ _ _ hb fun pn pp hl hsm hle h1 h2 => ?_
    -- the observer remembers an output of the current anchor: the prediction is within 2 ns of the anchored estimate
    simp only [Bool.and_eq_true] at hsm
    obtain ⟨h0, hp0, -, rfl⟩ := hi.of_last hl hsm.1.1
    have hclose := exact_add_close (pp - s.refPTS) (pts - pp) rate hpos
    rw [show pp - s.refPTS + (pts - pp) = pts - s.refPTS by omega] at hclose
    rw [step_some h0 (delta_small hr hp0 hsm.1.2)] at hout
    split at hout <;> cases hout <;> omega
  · intro (hsm : (o.small && ptsSmall pts && true) = true)
    simp only [Bool.and_eq_true] at hsm
    obtain ⟨⟨hos, hps⟩, -⟩ := hsm
    have hnew : now = now + exact (pts - pts) nsPerSec rate := by
      rw [Int.sub_self, exact, Int.zero_mul, Int.zero_tdiv, Int.add_zero]
    cases hl : o.last with
    | none =>
      unfold ObsInv at hi
      rw [hl] at hi
      rw [step_init rate s now pts hi] at hout ⊢
      cases hout
      exact ⟨hn, hps, hps, hnew⟩
    | some lp =>
      obtain ⟨h0, hp0, -, -⟩ := hi.of_last hl hos
      rw [step_some h0 (delta_small hr hp0 hps)] at hout ⊢
      split at hout <;> cases hout
      · rw [if_pos ‹_›]
        exact ⟨hn, hps, hps, hnew⟩
      · rw [if_neg ‹_›]
        exact ⟨h0, hp0, hps, rfl⟩

/-- **The observable spec accepts every run of the model** (rate in `1 … 2^32`, wall clock never at the zero
instant, any timestamps, any jumps): bounds always; consecutive absolute timestamps differ by the scaled
frame-timestamp difference (±4 ns of truncation) whenever that prediction is inside the window. -/
theorem obs_accepts_model (rate : Int) (hr : rateOK rate = true) (hist : List (Int × Int))
    (hn : ∀ p ∈ hist, p.1 ≠ 0) :
    ∀ (s : St) (o : Obs) (i : Nat), ObsInv rate s o →
      obsRun rate 4 o i (modelTrace rate s hist) = none := by
  induction hist with
  | nil => exact fun _ _ _ _ => rfl
  | cons p rest ih =>
    intro s o i hi
    obtain ⟨now, pts⟩ := p
    have h := obsStep_model rate hr s o now pts (hn (now, pts) List.mem_cons_self) hi
    simp only [modelTrace, obsRun]
    generalize obsStep rate 4 o true now pts ((step rate s now pts).2.getD 0) = r at h
    obtain ⟨o', e⟩ := r
    obtain ⟨rfl, h2⟩ := h
    exact ih (fun q hq => hn q (List.mem_cons_of_mem _ hq)) _ o' (i + 1) h2

theorem obs_accepts_model_init (rate : Int) (hr : rateOK rate = true) (hist : List (Int × Int))
    (hn : ∀ p ∈ hist, p.1 ≠ 0) : obsRun rate 4 {} 0 (modelTrace rate {} hist) = none :=
  obs_accepts_model rate hr hist hn {} {} 0 rfl

-- the upstream unit test, in nanoseconds relative to an arbitrary non-zero origin 10^18
example : (run 90000 {} [(10^18, 90000), (10^18 + 1000000000, 180000), (10^18 + 3000000000, 270000),
    (10^18 + 2000000000, 360000), (10^18 + 8000000000, 450000), (10^18 + 13000000000, 540000)]).2
  = [some (10^18), some (10^18 + 1000000000), some (10^18 + 2000000000), some (10^18 + 2000000000),
     some (10^18 + 3000000000), some (10^18 + 13000000000)] := by decide
-- a steady history exists (hypothesis of `steady_run` is satisfiable)
example : Steady 90000 ⟨10^18, 0⟩ [(10^18 + 1000000000, 90000), (10^18 + 2000000001, 180000)] := by
  intro p hp
  simp only [List.mem_cons, List.not_mem_nil, or_false] at hp
  rcases hp with rfl | rfl
  · exact ⟨1000000000, by decide, by decide, by decide⟩
  · exact ⟨2000000000, by decide, by decide, by decide⟩
-- outside the exact range (pts difference wraps / scaled value not representable) only the bounds remain:
example : delta 1 ⟨1, 0⟩ (2^62) ≠ some (exact (2^62) nsPerSec 1) := by decide
example : (step 1 ⟨10^18, 0⟩ (10^18 + 5) (2^62)).2 = some (10^18) := by decide  -- 2^62·10^9 ≡ 0 (mod 2^64)
-- zero clock rate panics on the second call
example : (run 0 {} [(10^18, 0), (10^18 + 1, 1)]).2 = [some (10^18), none] := by decide
-- quirk kept from the code: an estimator anchored at the zero instant counts as not initialised
-- (this is why `obs_accepts_model` excludes a wall clock reading of exactly 0, i.e. January 1 of year 1)
example : (run 90000 {} [(0, 7), (1000000000, 90007)]).1 = ⟨1000000000, 90007⟩ := by decide

end MtxVerif.C25
