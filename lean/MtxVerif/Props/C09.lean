/-
C09 — environment overrides are equivalent to file values.  Property theorems about the model of
`loadEnvInternal` (Model/C09.lean):

* `env_local_fixed`, `env_eq_file_value`, `env_eq_file_optional`, `leaf_exact` — with the prefix rule as fixed in
  /repo 7bda13e, a variable `<prefix>_<KEY>…` is handled by the addressed parameter alone, takes the value the text
  denotes whatever the file/default held, and leaves every sibling untouched (= writing the value in the file);
* `env_local_current_full` (the same for the loader before that fix, `fx = false`) is false — `env_local_current_witness`
  (MTX_AUTHMETHODS) — and holds under the side condition of `env_local_current_partial`;
* `envName_injective` — no two parameters share a variable.
-/
import MtxVerif.Lemmas.C09

namespace MtxVerif.C09

def Outcome.mapV (o : Outcome V) (f : V → V) : Outcome V :=
  match o with
  | .ok v => .ok (f v)
  | .err => .err
  | .panic => .panic
  | .nondet => .nondet

/-- **locality**: if the loader leaves every sibling alone, loading a struct is loading the one addressed field -/
theorem loadStructWith_local (child : Bytes → Ty → V → Outcome V) (pfx : Bytes) (tag : Bytes) (t : Ty) (v : V)
    (htag : (tag == b!"-") = false) (fs1 fs2 : List (Bytes × Ty)) (vs1 vs2 : List V)
    (h1 : InertFields child pfx fs1 vs1) (h2 : InertFields child pfx fs2 vs2) :
    loadStructWith child pfx (fs1 ++ (tag, t) :: fs2) (.struct (vs1 ++ v :: vs2)) =
      (child (pfx ++ [95] ++ fieldKey tag) t v).mapV (fun w => .struct (vs1 ++ w :: vs2)) := by
  rw [loadStructWith, loadFieldsWith_skip _ _ _ _ fs1 vs1 [] h1, loadFieldsWith, htag, if_neg Bool.false_ne_true]
  cases child (pfx ++ [95] ++ fieldKey tag) t v with
  | ok w =>
    simp only [loadFieldsWith_inert _ _ _ _ _ h2, Outcome.mapV, List.reverse_cons, List.reverse_reverse,
      List.append_assoc, List.singleton_append, List.append_nil]
  | _ => rfl

theorem takeWhile_seg {a tail : Bytes} (ha : (95 : UInt8) ∉ a) (ht : tail = [] ∨ ∃ r, tail = 95 :: r) :
    (a ++ tail).takeWhile (· != 95) = a := by
  rw [List.takeWhile_append_of_pos fun x hx => bne_iff_ne.mpr (ne_of_mem_of_not_mem hx ha)]
  rcases ht with rfl | ⟨r, rfl⟩ <;> simp

/-- a `_`-free segment is determined by any text that continues it with nothing or with `_…` -/
theorem seg_unique {a b ta tb : Bytes} (ha : (95 : UInt8) ∉ a) (hb : (95 : UInt8) ∉ b)
    (hta : ta = [] ∨ ∃ r, ta = 95 :: r) (htb : tb = [] ∨ ∃ r, tb = 95 :: r) (h : a ++ ta = b ++ tb) : a = b := by
  rw [← takeWhile_seg ha hta, ← takeWhile_seg hb htb, h]

/-- a variable addressing (something below) the `_`-free key `ki` does not concern a sibling with a different
`_`-free key `kj`; for the loader before /repo 7bda13e this needs `kj` not to be a prefix of the addressed name -/
theorem sibling_silent (fx : Bool) (pfx kj ki tail ev : Bytes) (hj : (95 : UInt8) ∉ kj) (hi : (95 : UInt8) ∉ ki)
    (ht : tail = [] ∨ ∃ r, tail = 95 :: r) (hne : kj ≠ ki) (hcur : fx = false → kj.isPrefixOf (ki ++ tail) = false) :
    Silent fx [(pfx ++ [95] ++ ki ++ tail, ev)] (pfx ++ [95] ++ kj) := by
  have hK : pfx ++ [95] ++ ki ++ tail = (pfx ++ [95]) ++ (ki ++ tail) := List.append_assoc ..
  have hpre (x : Bytes) : hasKeyWithPrefix [(pfx ++ [95] ++ ki ++ tail, ev)] (pfx ++ [95] ++ x) = x.isPrefixOf (ki ++ tail) := by
    rw [hasKeyWithPrefix, List.any_cons, List.any_nil, Bool.or_false, hK, Bool.eq_iff_iff]
    simp only [List.isPrefixOf_iff_prefix, List.prefix_append_right_inj]
  refine ⟨?_, ?_, fun hf => (hpre kj).trans (hcur hf)⟩
  · rw [Env.get, List.find?_cons_of_neg]; rfl
    rw [hK, beq_iff_eq, List.append_right_inj]
    exact fun h => hne (seg_unique hi hj ht (.inl rfl) (h.trans (List.append_nil kj).symm)).symm
  · have := hpre (kj ++ [95])
    rw [← List.append_assoc] at this
    rw [this, Bool.eq_false_iff, Ne, List.isPrefixOf_iff_prefix]
    rintro ⟨s, hs⟩
    exact hne (seg_unique hj hi (.inr ⟨s, rfl⟩) ht (by rw [← hs, List.append_assoc, List.singleton_append]))

/-- siblings of the addressed field: skipped (`json:"-"`), or `_`-free key different from the addressed key
and a well-formed value -/
def SiblingsOK (fuel : Nat) (ki : Bytes) : List (Bytes × Ty) → List V → Prop
  | [], [] => True
  | (tag, t) :: fs, v :: vs =>
    ((tag == b!"-") = true ∨ ((95 : UInt8) ∉ fieldKey tag ∧ fieldKey tag ≠ ki ∧ wfD (wfAt fuel) t v = true)) ∧
      SiblingsOK fuel ki fs vs
  | _, _ => False

theorem child_inert {fx : Bool} {fl : FloatOracle} {e : Env} {fuel : Nat} {pfx : Bytes} (hs : Silent fx e pfx) {t : Ty} {v : V}
    (hw : wfD (wfAt fuel) t v = true) : dispatch (loadAt fx fl e fuel) pfx t v = .ok v :=
  dispatch_inert _ (wfAt fuel) _ (fun t c hc => loadAt_inert fx fl e fuel _ t c hs hc) t v hw

theorem siblings_inert_fixed (fl : FloatOracle) (fuel : Nat) (pfx ki tail ev : Bytes) (hi : (95 : UInt8) ∉ ki)
    (ht : tail = [] ∨ ∃ r, tail = 95 :: r) :
    ∀ (fs : List (Bytes × Ty)) (vs : List V), SiblingsOK fuel ki fs vs →
      InertFields (dispatch (loadAt true fl [(pfx ++ [95] ++ ki ++ tail, ev)] fuel)) pfx fs vs
  | [], [], _ => trivial
  | [], _ :: _, h => h.elim
  | _ :: _, [], h => h.elim
  | (_, _) :: fs, _ :: vs, h =>
    ⟨h.1.imp id fun ⟨hj, hne, hw⟩ => child_inert (sibling_silent true pfx _ ki tail ev hj hi ht hne nofun) hw,
      siblings_inert_fixed fl fuel pfx ki tail ev hi ht fs vs h.2⟩

/-- **env_eq_file, inductive step (fixed loader)**: in a struct whose other fields have `_`-free keys different
from `fieldKey tag`, a single variable `<pfx>_<KEY><tail>` (tail empty, or `_…` addressing something below) is
handled by the addressed field alone; every sibling keeps its value. -/
theorem env_local_fixed (fl : FloatOracle) (fuel : Nat) (pfx tag tail ev : Bytes) (t : Ty) (v : V)
    (fs1 fs2 : List (Bytes × Ty)) (vs1 vs2 : List V)
    (htag : (tag == b!"-") = false) (hi : (95 : UInt8) ∉ fieldKey tag) (ht : tail = [] ∨ ∃ r, tail = 95 :: r)
    (h1 : SiblingsOK fuel (fieldKey tag) fs1 vs1) (h2 : SiblingsOK fuel (fieldKey tag) fs2 vs2) :
    loadStructWith (dispatch (loadAt true fl [(pfx ++ [95] ++ fieldKey tag ++ tail, ev)] fuel)) pfx
        (fs1 ++ (tag, t) :: fs2) (.struct (vs1 ++ v :: vs2)) =
      (dispatch (loadAt true fl [(pfx ++ [95] ++ fieldKey tag ++ tail, ev)] fuel) (pfx ++ [95] ++ fieldKey tag) t v).mapV
        (fun w => .struct (vs1 ++ w :: vs2)) :=
  loadStructWith_local _ pfx tag t v htag fs1 fs2 vs1 vs2 (siblings_inert_fixed fl fuel pfx _ tail ev hi ht fs1 vs1 h1)
    (siblings_inert_fixed fl fuel pfx _ tail ev hi ht fs2 vs2 h2)

/-- what a variable text denotes for a leaf type (`none`: rejected, or not a leaf type) -/
def leafOf (fl : FloatOracle) (t : Ty) (name ev : Bytes) : Option V :=
  match t with
  | .str => some (.str ev)
  | .int => (parseInt32 ev).map .int
  | .uint => (parseUint32 ev).map .uint
  | .float => (fl.lookup ev).map .float
  | .bool => (parseBool ev).map .bool
  | .unm => (unmCall [] name ev).map .unm
  | .strList => some (.list (if ev.isEmpty then [] else (splitComma ev).map .str))
  | .uintList => if ev.isEmpty then some (.list []) else ((splitComma ev).mapM parseUint32).map fun l => .list (l.map .uint)
  | .floatList => if ev.isEmpty then some (.list []) else ((splitComma ev).mapM (fun x => fl.lookup x)).map fun l => .list (l.map .float)
  | _ => none

/-- a leaf parameter addressed exactly takes the value of the variable, whatever it held before (file value or
default), and an unset optional parameter is created -/
theorem leaf_exact (fx : Bool) (fl : FloatOracle) (fuel : Nat) (K ev : Bytes) (t : Ty) (cur? : Option V) (d : V)
    (h : leafOf fl t K ev = some d) : loadAt fx fl [(K, ev)] (fuel + 1) K t cur? = .ok (.some d) := by
  unfold loadAt
  simp only [Env.get, List.find?, BEq.rfl, Option.map_some]
  cases t <;> first | (cases h; done) | dsimp only [leafOf] at h ⊢
  case str => cases h; rfl
  case strList => cases h; cases ev.isEmpty <;> rfl
  case uintList | floatList =>
    cases he : ev.isEmpty <;> simp only [he, if_true, Bool.false_eq_true, if_false] at h ⊢
    · obtain ⟨v, hv, rfl⟩ := Option.map_eq_some_iff.mp h; rw [hv]
    · cases h; rfl
  -- the remaining leaves: `leafOf` is `(parse ev).map _` (the test double's `unmCall` ignores the history)
  all_goals obtain ⟨v, hv, rfl⟩ := Option.map_eq_some_iff.mp h
  case unm => rw [show ∀ hist, unmCall hist K ev = some v from fun _ => hv]
  all_goals rw [hv]

theorem leaf_not_ptr {fl : FloatOracle} {t : Ty} {name ev : Bytes} {d : V} (h : leafOf fl t name ev = some d) (u : Ty) :
    t ≠ .ptr u := by
  rintro rfl; cases h

/-- **env_eq_file (fixed loader, a parameter of a struct)**: setting `<pfx>_<KEY>=text` yields the struct with
that one parameter set to the value the text denotes — whatever the parameter held before (file value or
default: *override*) — and every other parameter unchanged; the same as writing the value in the file. -/
theorem env_eq_file_value (fl : FloatOracle) (fuel : Nat) (pfx tag ev : Bytes) (t : Ty) (v d : V)
    (fs1 fs2 : List (Bytes × Ty)) (vs1 vs2 : List V)
    (htag : (tag == b!"-") = false) (hi : (95 : UInt8) ∉ fieldKey tag)
    (h1 : SiblingsOK (fuel + 1) (fieldKey tag) fs1 vs1) (h2 : SiblingsOK (fuel + 1) (fieldKey tag) fs2 vs2)
    (hleaf : leafOf fl t (pfx ++ [95] ++ fieldKey tag) ev = some d) :
    loadStructWith (dispatch (loadAt true fl [(pfx ++ [95] ++ fieldKey tag, ev)] (fuel + 1))) pfx
        (fs1 ++ (tag, t) :: fs2) (.struct (vs1 ++ v :: vs2)) = .ok (.struct (vs1 ++ d :: vs2)) := by
  have := env_local_fixed fl (fuel + 1) pfx tag [] ev t v fs1 fs2 vs1 vs2 htag hi (Or.inl rfl) h1 h2
  rw [List.append_nil] at this
  rw [this, dispatch_val (leaf_not_ptr hleaf), leaf_exact true fl fuel _ ev t (some v) d hleaf]
  rfl

/-- the same for an optional (pointer) parameter, unset or set -/
theorem env_eq_file_optional (fl : FloatOracle) (fuel : Nat) (pfx tag ev : Bytes) (t : Ty) (v d : V)
    (fs1 fs2 : List (Bytes × Ty)) (vs1 vs2 : List V)
    (htag : (tag == b!"-") = false) (hi : (95 : UInt8) ∉ fieldKey tag) (hv : v = .nil ∨ ∃ w, v = .some w)
    (h1 : SiblingsOK (fuel + 1) (fieldKey tag) fs1 vs1) (h2 : SiblingsOK (fuel + 1) (fieldKey tag) fs2 vs2)
    (hleaf : leafOf fl t (pfx ++ [95] ++ fieldKey tag) ev = some d) :
    loadStructWith (dispatch (loadAt true fl [(pfx ++ [95] ++ fieldKey tag, ev)] (fuel + 1))) pfx
        (fs1 ++ (tag, .ptr t) :: fs2) (.struct (vs1 ++ v :: vs2)) = .ok (.struct (vs1 ++ .some d :: vs2)) := by
  have := env_local_fixed fl (fuel + 1) pfx tag [] ev (.ptr t) v fs1 fs2 vs1 vs2 htag hi (Or.inl rfl) h1 h2
  rw [List.append_nil] at this
  rw [this, dispatch_ptr (leaf_not_ptr hleaf)]
  rcases hv with rfl | ⟨w, rfl⟩
  · exact congrArg (Outcome.mapV · _) (leaf_exact true fl fuel _ ev t none d hleaf)
  · exact congrArg (Outcome.mapV · _) (leaf_exact true fl fuel _ ev t (some w) d hleaf)

/-! ### the loader before /repo 7bda13e: the prefix rule looks at variables that merely start with the same letters -/

def SiblingsOKcur (fuel : Nat) (ki tail : Bytes) : List (Bytes × Ty) → List V → Prop
  | [], [] => True
  | (tag, t) :: fs, v :: vs =>
    ((tag == b!"-") = true ∨ ((95 : UInt8) ∉ fieldKey tag ∧ fieldKey tag ≠ ki ∧ wfD (wfAt fuel) t v = true ∧
        (fieldKey tag).isPrefixOf (ki ++ tail) = false)) ∧
      SiblingsOKcur fuel ki tail fs vs
  | _, _ => False

theorem siblings_inert_current (fl : FloatOracle) (fuel : Nat) (pfx ki tail ev : Bytes) (hi : (95 : UInt8) ∉ ki)
    (ht : tail = [] ∨ ∃ r, tail = 95 :: r) :
    ∀ (fs : List (Bytes × Ty)) (vs : List V), SiblingsOKcur fuel ki tail fs vs →
      InertFields (dispatch (loadAt false fl [(pfx ++ [95] ++ ki ++ tail, ev)] fuel)) pfx fs vs
  | [], [], _ => trivial
  | [], _ :: _, h => h.elim
  | _ :: _, [], h => h.elim
  | (_, _) :: fs, _ :: vs, h =>
    ⟨h.1.imp id fun ⟨hj, hne, hw, hp⟩ => child_inert (sibling_silent false pfx _ ki tail ev hj hi ht hne fun _ => hp) hw,
      siblings_inert_current fl fuel pfx ki tail ev hi ht fs vs h.2⟩

/-- locality for the loader before the fix, under the extra side condition that no sibling key is a prefix of the
addressed name -/
theorem env_local_current_partial (fl : FloatOracle) (fuel : Nat) (pfx tag tail ev : Bytes) (t : Ty) (v : V)
    (fs1 fs2 : List (Bytes × Ty)) (vs1 vs2 : List V)
    (htag : (tag == b!"-") = false) (hi : (95 : UInt8) ∉ fieldKey tag) (ht : tail = [] ∨ ∃ r, tail = 95 :: r)
    (h1 : SiblingsOKcur fuel (fieldKey tag) tail fs1 vs1) (h2 : SiblingsOKcur fuel (fieldKey tag) tail fs2 vs2) :
    loadStructWith (dispatch (loadAt false fl [(pfx ++ [95] ++ fieldKey tag ++ tail, ev)] fuel)) pfx
        (fs1 ++ (tag, t) :: fs2) (.struct (vs1 ++ v :: vs2)) =
      (dispatch (loadAt false fl [(pfx ++ [95] ++ fieldKey tag ++ tail, ev)] fuel) (pfx ++ [95] ++ fieldKey tag) t v).mapV
        (fun w => .struct (vs1 ++ w :: vs2)) :=
  loadStructWith_local _ pfx tag t v htag fs1 fs2 vs1 vs2 (siblings_inert_current fl fuel pfx _ tail ev hi ht fs1 vs1 h1)
    (siblings_inert_current fl fuel pfx _ tail ev hi ht fs2 vs2 h2)

/-- the statement of `env_local_fixed` for the loader before the fix — false (finding: MTX_AUTHMETHODS) -/
def env_local_current_full : Prop :=
  ∀ (fl : FloatOracle) (fuel : Nat) (pfx tag tail ev : Bytes) (t : Ty) (v : V)
    (fs1 fs2 : List (Bytes × Ty)) (vs1 vs2 : List V),
    (tag == b!"-") = false → (95 : UInt8) ∉ fieldKey tag → (tail = [] ∨ ∃ r, tail = 95 :: r) →
    SiblingsOK fuel (fieldKey tag) fs1 vs1 → SiblingsOK fuel (fieldKey tag) fs2 vs2 →
    loadStructWith (dispatch (loadAt false fl [(pfx ++ [95] ++ fieldKey tag ++ tail, ev)] fuel)) pfx
        (fs1 ++ (tag, t) :: fs2) (.struct (vs1 ++ v :: vs2)) =
      (dispatch (loadAt false fl [(pfx ++ [95] ++ fieldKey tag ++ tail, ev)] fuel) (pfx ++ [95] ++ fieldKey tag) t v).mapV
        (fun w => .struct (vs1 ++ w :: vs2))


/-- witness: struct {authMethod: Unmarshaler, authMethods: *Unmarshaler}, variable MTX_AUTHMETHODS=basic — the
sibling `authMethod` is called with the empty string (the real `AuthMethod` rejects it: Load fails) -/
theorem env_local_current_witness : ¬ env_local_current_full := fun h =>
  have h' := h [] 2 b!"MTX" b!"authMethods" [] b!"basic" (.ptr .unm) .nil [(b!"authMethod", .unm)] []
    [.unm b!"x"] [] rfl (by decide) (Or.inl rfl) ⟨Or.inr ⟨by decide, by decide, rfl⟩, trivial⟩ trivial
  -- the two sides differ in what the sibling `authMethod` holds: "<MTX_AUTHMETHOD=>" against "x"
  absurd (congrArg (fun | .ok (.struct (.unm s :: _)) => s | _ => []) h') (by decide +kernel)

/-- the fixed loader on the same input leaves `authMethod` alone and sets `authMethods` -/
example : loadStructWith (dispatch (loadAt true [] [(b!"MTX_AUTHMETHODS", b!"basic")] 2)) b!"MTX"
    [(b!"authMethod", .unm), (b!"authMethods", .ptr .unm)] (.struct [.unm b!"x", .nil]) =
    .ok (.struct [.unm b!"x", .some (.unm b!"<MTX_AUTHMETHODS=basic>")]) := rfl

def nameSuffix : List Bytes → Bytes
  | [] => []
  | s :: p => 95 :: (s ++ nameSuffix p)

theorem nameSuffix_tail (p : List Bytes) : nameSuffix p = [] ∨ ∃ r, nameSuffix p = 95 :: r := by
  cases p with
  | nil => exact Or.inl rfl
  | cons s p => exact Or.inr ⟨s ++ nameSuffix p, rfl⟩

theorem envName_eq (pfx : Bytes) (p : List Seg) : envName pfx p = pfx ++ nameSuffix (p.map segName) := by
  induction p generalizing pfx with
  | nil => simp [envName, nameSuffix]
  | cons s p ih =>
    have : envName pfx (s :: p) = envName (pfx ++ [95] ++ segName s) p := rfl
    rw [this, ih]; simp [nameSuffix, List.append_assoc]

theorem nameSuffix_injective : ∀ (p q : List Bytes), (∀ s ∈ p, (95 : UInt8) ∉ s) → (∀ s ∈ q, (95 : UInt8) ∉ s) →
    nameSuffix p = nameSuffix q → p = q
  | [], [], _, _, _ => rfl
  | [], _ :: _, _, _, h => nomatch h
  | _ :: _, [], _, _, h => nomatch h
  | s :: p, s' :: q, hp, hq, h => by
    rw [List.forall_mem_cons] at hp hq
    have h0 : s ++ nameSuffix p = s' ++ nameSuffix q := (List.cons.inj h).2
    have hss := seg_unique hp.1 hq.1 (nameSuffix_tail p) (nameSuffix_tail q) h0
    subst hss
    rw [nameSuffix_injective p q hp.2 hq.2 (List.append_cancel_left h0)]

/-- **no two parameters share a variable**: paths whose segment names are `_`-free (json tags of the real
configuration, addressable map keys, indices) have different variable names -/
theorem envName_injective (pfx : Bytes) (p q : List Seg)
    (hp : ∀ s ∈ p, (95 : UInt8) ∉ segName s) (hq : ∀ s ∈ q, (95 : UInt8) ∉ segName s)
    (h : envName pfx p = envName pfx q) : p.map segName = q.map segName := by
  rw [envName_eq, envName_eq] at h
  exact nameSuffix_injective _ _ (List.forall_mem_map.mpr hp) (List.forall_mem_map.mpr hq) (List.append_cancel_left h)



/-! ### non-vacuity and behaviour examples (tests, not theorems) -/

-- the hypotheses of `env_eq_file_value` are satisfiable: {logLevel: Unmarshaler, api: bool, apiAddress: string}
example : loadStructWith (dispatch (loadAt true [] [(b!"MTX" ++ [95] ++ fieldKey b!"api", b!"yes")] 3)) b!"MTX"
    ([(b!"logLevel", Ty.unm)] ++ (b!"api", Ty.bool) :: [(b!"apiAddress", Ty.str)])
    (.struct ([V.unm b!"x"] ++ V.bool false :: [V.str b!":9997"])) =
    .ok (.struct ([V.unm b!"x"] ++ V.bool true :: [V.str b!":9997"])) :=
  env_eq_file_value [] 2 b!"MTX" b!"api" b!"yes" .bool (.bool false) (.bool true) _ _ _ _ rfl (by decide)
    ⟨Or.inr ⟨by decide, by decide, rfl⟩, trivial⟩ ⟨Or.inr ⟨by decide, by decide, rfl⟩, trivial⟩ rfl

-- map of pointers: the key is the next `_`-free upper-case token, lower-cased; a null entry is replaced
example : loadEnv false [] [(b!"MTX_PATHS_CAM_SOURCE", b!"x")] 6 b!"MTX"
    (.struct [(b!"paths", .map (.unmStruct [(b!"source,omitempty", .ptr .str)]))]) (.struct [.map [(b!"cam", .nil)]]) =
    .ok (.struct [.map [(b!"cam", .some (.opt (.some (.struct [.some (.str b!"x")]))))]]) := rfl
-- lower-case keys and keys with `_` cannot be addressed
example : loadEnv false [] [(b!"MTX_PATHS_cam_SOURCE", b!"x")] 6 b!"MTX"
    (.struct [(b!"paths", .map (.unmStruct [(b!"source,omitempty", .ptr .str)]))]) (.struct [.nilMap]) =
    .ok (.struct [.nilMap]) := rfl
-- struct list: items are addressed by index and merged into existing items
example : loadEnv false [] [(b!"MTX_USERS_0_PASS", b!"p")] 6 b!"MTX"
    (.struct [(b!"users", .structList [(b!"user", .str), (b!"pass", .str)])])
    (.struct [.list [.struct [.str b!"any", .str []]]]) =
    .ok (.struct [.list [.struct [.str b!"any", .str b!"p"]]]) := rfl
-- 32-bit integer parse: 2^31 is rejected
example : parseInt32 b!"2147483647" = some 2147483647 ∧ parseInt32 b!"2147483648" = none ∧
    parseInt32 b!"-2147483648" = some (-2147483648) ∧ parseUint32 b!"4294967296" = none := by decide
example : parseBool b!"YES" = some true ∧ parseBool b!"No" = some false ∧ parseBool b!"1" = none := by decide
-- nil receiver: a variable that merely extends the name of an unset optional Unmarshaler parameter
example : loadEnv false [] [(b!"MTX_RECORDPARTDURATIONX", b!"1s")] 4 b!"MTX"
    (.struct [(b!"recordPartDuration,omitempty", .ptr .unm)]) (.struct [.nil]) = .panic := rfl
example : loadEnv true [] [(b!"MTX_RECORDPARTDURATIONX", b!"1s")] 4 b!"MTX"
    (.struct [(b!"recordPartDuration,omitempty", .ptr .unm)]) (.struct [.nil]) = .ok (.struct [.nil]) := rfl

end MtxVerif.C09
