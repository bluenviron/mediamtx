/-
C27 — recordings are playable up to the last complete part at any crash point.  Property theorems.

(R) reader: `prefix_parts` — on ANY crash image (prefix at any byte offset, optionally followed by any number
    of zero bytes) of a file `hdr ++ part₁ … partₙ`, the moof/mdat scan of the playback server accepts exactly
    the parts whose moof box and mdat header lie inside the kept prefix; hence every complete part is counted
    (`complete_parts_counted`), nothing after the first incomplete part is (`accepted` is a prefix of the part
    list), and at most ONE counted part is incomplete (`overcount_at_most_one`: its moof is intact, its mdat
    payload is torn).  `moofLoop_eq_scan` links `scan` to the model of the real loop that C28 ties to the code.
(W) writer: by induction over arbitrary sample sequences — segment numbers of one instance are consecutive from
    0 (`numbers_consecutive`, hence `consecutive_concat`); the part being assembled in memory (= what a crash
    loses besides the torn tail) consists of samples ending less than `partDuration` after the part's start,
    plus at most one more sample (`unflushed_bound`); a closed segment's header holds its duration to the
    millisecond (`closed_duration`).
-/
import MtxVerif.Model.C27
import MtxVerif.Props.C28

namespace MtxVerif.C27

open MtxVerif.C28 (rd32 byteAt tagAt tMoof tMdat u32 moofLoop)

theorem byteAt_append_right (a b : Bytes) (i : Nat) : byteAt (a ++ b) (a.length + i) = byteAt b i := by
  simp [byteAt, List.getD_eq_getElem?_getD, List.getElem?_append_right]

theorem rd32_append_right (a b : Bytes) (i : Nat) : rd32 (a ++ b) (a.length + i) = rd32 b i := by
  simp only [rd32, Nat.add_assoc, byteAt_append_right]

theorem tagAt_append_right (a b : Bytes) (i : Nat) : tagAt (a ++ b) (a.length + i) = tagAt b i := by
  simp [tagAt, List.drop_append, List.drop_eq_nil_of_le]

theorem tagAt_get? (f : Bytes) (p j : Nat) (hj : j < 4) : (tagAt f p)[j]? = f[p + j]? := by
  simp [tagAt, List.getElem?_drop, hj]

theorem be32_length (n : Nat) : (be32 n).length = 4 := rfl

theorem be_digits (n : Nat) :
    n / 16777216 * 16777216 + n / 65536 % 256 * 65536 + n / 256 % 256 * 256 + n % 256 = n := by
  have e0 := Nat.div_add_mod n 256
  have e1 := Nat.div_add_mod (n / 256) 256
  have e2 := Nat.div_add_mod (n / 65536) 256
  simp only [Nat.div_div_eq_div_mul, Nat.reduceMul] at e1 e2
  -- linear once the quotients and digits are atoms
  generalize n % 256 = b0 at *
  generalize n / 256 % 256 = b1 at *
  generalize n / 65536 % 256 = b2 at *
  generalize n / 16777216 = q3 at *
  generalize n / 65536 = q2 at *
  generalize n / 256 = q1 at *
  omega

theorem rd32_be32 (n : Nat) (h : n < u32) (r : Bytes) : rd32 (be32 n ++ r) 0 = n := by
  have h3 : n / 16777216 % 256 = n / 16777216 := Nat.mod_eq_of_lt (by unfold u32 at h; omega)
  unfold rd32 byteAt be32
  simp only [List.cons_append, List.getD_cons_zero, List.getD_cons_succ, Nat.zero_add, UInt8.toNat_ofNat',
    Nat.reducePow, Nat.mod_mod, h3]
  exact be_digits n

theorem image_length (F : Bytes) (k z : Nat) : (image F k z).length = min k F.length + z := by
  simp [image]

theorem image_append (a b : Bytes) (k z : Nat) (h : a.length ≤ k) :
    image (a ++ b) k z = a ++ image b (k - a.length) z := by
  simp [image, List.take_append, List.take_of_length_le h]

theorem image_zero (F : Bytes) (k z i : Nat) (hk : min k F.length ≤ i) (hi : i < (image F k z).length) :
    (image F k z)[i]? = some 0 := by
  rw [image_length] at hi
  rw [image, List.getElem?_append_right (by simpa using hk), List.getElem?_replicate, if_pos]
  simp only [List.length_take]
  omega

theorem box_hdr_image (F a tag payload rest : Bytes) (k z : Nat) (hF : F = a ++ box tag payload ++ rest)
    (ht : tag.length = 4) (hn : payload.length + 8 < u32) (hk : a.length + 8 ≤ k) :
    a.length + 8 ≤ (image F k z).length ∧ tagAt (image F k z) (a.length + 4) = tag ∧
    rd32 (image F k z) a.length = payload.length + 8 := by
  have e : F = a ++ be32 (payload.length + 8) ++ tag ++ (payload ++ rest) := by simp [hF, box]
  have hl : (a ++ be32 (payload.length + 8) ++ tag).length = a.length + 8 := by simp [be32_length, ht]
  rw [e, image_append _ _ k z (by omega)]
  refine ⟨by simp [be32_length, ht]; omega, ?_, ?_⟩
  · rw [List.append_assoc (a ++ _), show a.length + 4 = (a ++ be32 (payload.length + 8)).length + 0 by
      simp [be32_length], tagAt_append_right, tagAt, List.drop_zero, List.take_left' ht]
  · rw [List.append_assoc, List.append_assoc, ← Nat.add_zero a.length, rd32_append_right, rd32_be32 _ hn]

/-- a box header that the cut has reached is not recognised: its last tag byte is a zero -/
theorem hdr_cut (F : Bytes) (k z q : Nat) (hk : min k F.length < q + 8) (hl : ¬ (image F k z).length < q + 8) :
    (tagAt (image F k z) (q + 4) != tMoof) = true ∧ (tagAt (image F k z) (q + 4) != tMdat) = true := by
  have hz := image_zero F k z (q + 4 + 3) (by omega) (by omega)
  rw [← tagAt_get? _ _ 3 (by omega)] at hz
  simp only [bne_iff_ne]
  constructor <;> intro e <;> rw [e] at hz <;> revert hz <;> decide

theorem encPart_length (p : Part) : (encPart p).length = partLen p := by
  simp [encPart, box, be32_length, partLen, tMoof, tMdat, asc]; omega

theorem scan_cut (F : Bytes) (k z fuel q : Nat) (hk : min k F.length < q + 8) :
    scan (image F k z) fuel q = [] := by
  cases fuel with
  | zero => rfl
  | succ n =>
    unfold scan
    split
    · rfl
    · next hl => rw [if_pos (hdr_cut F k z q hk hl).1]

/-- **prefix_parts.**  For every header `pre`, every list of well-formed parts, every cut offset `k` and every
number `z` of zero bytes after the cut: the scan of the crash image accepts exactly the parts whose moof box and
mdat header lie within the first `k` bytes. -/
theorem prefix_parts : ∀ (ps : List Part) (pre : Bytes) (k z fuel : Nat), (∀ p ∈ ps, p.wf) →
    k < fuel + pre.length →
    scan (image (pre ++ encParts ps) k z) fuel pre.length = accepted pre.length k ps := by
  intro ps
  induction ps with
  | nil => intro pre k z fuel _ _; exact scan_cut _ k z fuel _ (by simp [encParts]; omega)
  | cons p rest ih =>
    intro pre k z fuel hwf hf
    have hp := hwf p List.mem_cons_self
    have hm : moofLen p = p.moof.length + 8 := rfl
    have hl2 : (pre ++ box tMoof p.moof).length = pre.length + moofLen p := by
      simp [box, be32_length, moofLen, tMoof, asc]; omega
    unfold accepted
    by_cases hk8 : pre.length + 8 ≤ k
    · -- the moof header is intact
      obtain ⟨l1, t1, r1⟩ := box_hdr_image (pre ++ encParts (p :: rest)) pre tMoof p.moof
        (box tMdat p.mdat ++ encParts rest) k z (by simp only [encParts, encPart, List.append_assoc]) rfl hp.1 hk8
      cases fuel with
      | zero => omega
      | succ n =>
        unfold scan
        rw [if_neg (by omega), if_neg (by simp [t1])]
        simp only [r1, ← hm]
        by_cases hacc : pre.length + moofLen p + 8 ≤ k
        · -- so is the mdat header: the part is accepted
          obtain ⟨l2, t2, r2⟩ := box_hdr_image (pre ++ encParts (p :: rest)) (pre ++ box tMoof p.moof) tMdat p.mdat
            (encParts rest) k z (by simp only [encParts, encPart, List.append_assoc]) rfl hp.2 (by omega)
          rw [hl2] at l2 t2 r2
          rw [if_pos hacc, if_neg (by omega), if_neg (by simp [t2]), r2]
          have hoff : pre.length + moofLen p + (p.mdat.length + 8) = (pre ++ encPart p).length := by
            rw [List.length_append, encPart_length, partLen, moofLen]; omega
          have hoff2 : pre.length + partLen p = (pre ++ encPart p).length := by
            rw [List.length_append, encPart_length]
          rw [hoff, hoff2, show pre ++ encParts (p :: rest) = pre ++ encPart p ++ encParts rest by simp [encParts]]
          congr 1
          exact ih (pre ++ encPart p) k z n (fun q hq => hwf q (List.mem_cons_of_mem _ hq)) (by omega)
        · -- the mdat header is cut
          rw [if_neg hacc]
          split
          · rfl
          · next hl => rw [if_pos (hdr_cut _ k z (pre.length + moofLen p) (by omega) hl).2]
    · rw [if_neg (by omega)]
      exact scan_cut _ k z fuel _ (by omega)

theorem accepted_eq_complete_append (ps : List Part) (off k : Nat) :
    ∃ t, accepted off k ps = complete off k ps ++ t ∧ t.length ≤ 1 := by
  induction ps generalizing off with
  | nil => exact ⟨[], rfl, by simp⟩
  | cons p r ih =>
    unfold complete accepted
    by_cases hc : off + partLen p ≤ k
    · obtain ⟨t, e, ht⟩ := ih (off + partLen p)
      rw [if_pos hc, if_pos (by unfold partLen at hc; unfold moofLen; omega), e]
      exact ⟨t, rfl, ht⟩
    · rw [if_neg hc]
      by_cases ha : off + moofLen p + 8 ≤ k
      · -- the next part starts beyond `k`: nothing more is accepted
        have : accepted (off + partLen p) k r = [] := by
          cases r with
          | nil => rfl
          | cons q r' => unfold accepted; rw [if_neg (by omega)]
        rw [if_pos ha, this]
        exact ⟨[off], rfl, by simp⟩
      · rw [if_neg ha]
        exact ⟨[], rfl, by simp⟩

/-- `complete` (parts entirely inside the prefix) is a prefix of `accepted`: every complete part is counted -/
theorem complete_parts_counted : ∀ (ps : List Part) (off k : Nat),
    complete off k ps <+: accepted off k ps := by
  intro ps off k
  obtain ⟨t, e, -⟩ := accepted_eq_complete_append ps off k
  exact ⟨t, e.symm⟩

/-- at most one counted part is not complete (and it is the last counted one) -/
theorem overcount_at_most_one : ∀ (ps : List Part) (off k : Nat),
    (accepted off k ps).length ≤ (complete off k ps).length + 1 := by
  intro ps off k
  obtain ⟨t, e, ht⟩ := accepted_eq_complete_append ps off k
  rw [e, List.length_append]
  omega

/-- the file cut at its very end (or not cut at all): every part is counted -/
theorem whole_file_all_parts : ∀ (ps : List Part) (off k : Nat),
    off + (encParts ps).length ≤ k → (accepted off k ps).length = ps.length := by
  intro ps
  induction ps with
  | nil => intro off k _; rfl
  | cons p r ih =>
    intro off k h
    have hl : (encParts (p :: r)).length = partLen p + (encParts r).length := by
      simp [encParts, encPart_length]
    unfold accepted
    rw [if_pos (by unfold partLen at hl; unfold moofLen; omega)]
    simp
    exact ih _ _ (by omega)

theorem moofLoop_eq_scan (f : Bytes) : ∀ (fuel pos : Nat) (last : Option Nat),
    moofLoop f fuel pos last ≠ none →
    moofLoop f fuel pos last = some (((scan f fuel pos).getLast?).or last) := by
  intro fuel
  induction fuel with
  | zero => intro pos last h; exact absurd rfl h
  | succ n ih =>
    intro pos last h
    unfold moofLoop at h ⊢
    unfold scan
    -- the four tests are the same in both loops
    by_cases h1 : f.length < pos + 8
    · simp [h1]
    by_cases h2 : (tagAt f (pos + 4) != tMoof) = true
    · simp [h1, h2]
    by_cases h3 : f.length < pos + rd32 f pos + 8
    · simp [h1, h2, h3]
    by_cases h4 : (tagAt f (pos + rd32 f pos + 4) != tMdat) = true
    · simp [h1, h2, h3, h4]
    simp only [h1, h2, h3, h4, Bool.false_eq_true, if_false] at h ⊢
    rw [ih _ _ h, List.getLast?_cons]
    cases (scan f n (pos + rd32 f pos + rd32 f (pos + rd32 f pos))).getLast? <;> rfl

/-- **What the real duration loop selects on a crash image**: the last part whose moof and mdat header survived
(`none` = "no moof boxes found").  Combines `prefix_parts` with the model of the loop that C28 ties to the code
and its termination proof. -/
theorem reader_selects_last_accepted (ps : List Part) (pre : Bytes) (k z : Nat) (hwf : ∀ p ∈ ps, p.wf)
    (hk : k ≤ (pre ++ encParts ps).length) :
    moofLoop (image (pre ++ encParts ps) k z) ((image (pre ++ encParts ps) k z).length + 1) pre.length none
      = some ((accepted pre.length k ps).getLast?) := by
  have hnh := C28.moofLoop_no_hang (image (pre ++ encParts ps) k z)
    ((image (pre ++ encParts ps) k z).length + 1) pre.length none (by omega) (by omega)
  rw [moofLoop_eq_scan _ _ _ _ hnh, prefix_parts ps pre k z _ hwf (by rw [image_length]; omega)]
  simp

/-- in-memory part: everything but the sample written last ended less than `partDur` after the part's start -/
def PartBound (c : Cfg) (p : PartSt) : Prop :=
  ∃ (initl : List WS) (lastw : WS), p.all = initl ++ [lastw] ∧
    (∀ w ∈ initl, w.fin - p.start < c.partDur) ∧ (∀ w ∈ p.all, w.fin ≤ p.fin)

theorem addToPart_all (p : PartSt) (w : WS) (b : Nat) : (addToPart p w b).all = p.all ++ [w] := rfl

theorem addToPart_fin (p : PartSt) (w : WS) (b : Nat) : (addToPart p w b).fin = max p.fin w.fin := rfl

theorem addToPart_start (p : PartSt) (w : WS) (b : Nat) : (addToPart p w b).start = p.start := rfl

theorem partBound_fresh (c : Cfg) (w : WS) (b : Nat) : PartBound c (addToPart ⟨w.dts, 0, [], []⟩ w b) := by
  refine ⟨[], w, by simp [addToPart_all], by simp, ?_⟩
  intro x hx
  rw [addToPart_all] at hx
  simp at hx; subst hx
  rw [addToPart_fin]; exact Nat.le_max_right _ _

/-- **loss bound** (one step): after `formatFMP4Segment.write`, the part still in memory satisfies `PartBound` -/
theorem segWrite_bound (c : Cfg) (sg : SegSt) (w : WS) (rate : Nat)
    (h : ∀ p, sg.cur = some p → PartBound c p) :
    ∀ p, (segWrite c sg w rate).cur = some p → PartBound c p := by
  intro p hp
  revert hp
  fun_cases segWrite c sg w rate with
  | case1 => intro hp; cases hp; exact partBound_fresh c w _
  | case2 => intro hp; cases hp; exact partBound_fresh c w _
  | case3 _ _ q hq hdur =>
    intro hp
    cases hp
    obtain ⟨-, -, -, -, e3⟩ := h q hq
    refine ⟨q.all, w, addToPart_all .., fun x hx => ?_, fun x hx => ?_⟩
    · have := e3 x hx
      rw [addToPart_start]
      omega
    · rw [addToPart_all] at hx
      rw [addToPart_fin]
      rcases List.mem_append.mp hx with hx | hx
      · have := e3 x hx; omega
      · cases List.mem_singleton.mp hx; exact Nat.le_max_right ..
/-- state invariant of the writer -/
structure Inv (c : Cfg) (s : St) : Prop where
  /-- numbers of the files written so far are 0,1,2,… -/
  nums : s.files.map (·.number) = List.range s.files.length
  /-- the segment the next sample goes into carries the next number, `nextNumber` is then one ahead, and its
  part in memory is bounded -/
  cur : ¬ s.closed = true → ∀ d n, (curSeg s d n).number = s.files.length ∧ curNext s = s.files.length + 1 ∧
    ∀ p, (curSeg s d n).cur = some p → PartBound c p
  closedSeg : s.closed = true → s.seg = none

theorem curSeg_of_some {s : St} {sg : SegSt} (h : s.seg = some sg) (d : Nat) (n : Int) : curSeg s d n = sg := by
  simp only [curSeg, h]

theorem Inv.ofSeg {c : Cfg} {s : St} (h : Inv c s) {sg : SegSt} (hs : s.seg = some sg) :
    sg.number = s.files.length ∧ ∀ p, sg.cur = some p → PartBound c p := by
  have := h.cur (fun hc => by rw [h.closedSeg hc] at hs; cases hs) 0 0
  rw [curSeg_of_some hs] at this
  exact ⟨this.1, this.2.2⟩

theorem segClose_some (sg : SegSt) (f : FileSt) (h : segClose sg = some f) :
    f.number = sg.number ∧ f.parts = segParts sg := by
  unfold segClose at h
  split at h
  · cases h
  · cases h; exact ⟨rfl, rfl⟩

theorem segSamples_segWrite (c : Cfg) (sg : SegSt) (w : WS) (rate : Nat) :
    segSamples (segWrite c sg w rate) = segSamples sg ++ [w] := by
  unfold segWrite
  simp only []
  cases hc : sg.cur with
  | none => simp [segSamples, segParts, hc, addToPart_all]
  | some p => simp only []; split <;> simp [segSamples, segParts, hc, addToPart_all]

theorem segClose_segWrite (c : Cfg) (sg : SegSt) (w : WS) (rate : Nat) :
    ∃ f, segClose (segWrite c sg w rate) = some f := by
  unfold segClose
  split
  · next h =>
    have := segSamples_segWrite c sg w rate
    rw [segSamples, List.isEmpty_iff.mp h] at this
    simp at this
  · exact ⟨_, rfl⟩

theorem segWrite_number (c : Cfg) (sg : SegSt) (w : WS) (rate : Nat) :
    (segWrite c sg w rate).number = sg.number := by
  fun_cases segWrite c sg w rate <;> rfl

theorem range_succ_map (l : List FileSt) (f : FileSt) (h : l.map (·.number) = List.range l.length)
    (hf : f.number = l.length) : (l ++ [f]).map (·.number) = List.range (l ++ [f]).length := by
  simp [List.range_succ, h, hf]

theorem init_inv (c : Cfg) : Inv c (init c) :=
  ⟨by simp [init], fun _ _ _ => ⟨rfl, rfl, fun _ e => (by cases e)⟩, fun e => (by cases e)⟩

/-- closing the instance keeps the numbering -/
theorem closeInst_inv (c : Cfg) (s : St) (h : Inv c s) : Inv c (closeInst s) := by
  unfold closeInst
  split
  · next hseg => exact ⟨h.nums, fun e => absurd rfl e, fun _ => hseg⟩
  · next sg hseg =>
    refine ⟨?_, fun e => absurd rfl e, fun _ => rfl⟩
    cases hc : segClose sg with
    | none => simpa [hc] using h.nums
    | some f =>
      simpa [hc] using range_succ_map s.files f h.nums ((segClose_some sg f hc).1.trans (h.ofSeg hseg).1)

/-- **one write preserves the invariant** (every branch of formatFMP4Track.write) -/
theorem write_inv (c : Cfg) (s : St) (x : In) (h : Inv c s) : Inv c (write c s x) := by
  -- the branches of `write`: closed, first sample of its track, drift error, late sample, segment switch, plain write
  fun_cases write c s x with
  | case1 => exact h
  | case2 => exact ⟨h.nums, h.cur, h.closedSeg⟩
  | case3 => exact closeInst_inv c _ ⟨h.nums, h.cur, h.closedSeg⟩
  | case4 hc smp _ _ _ w =>
    exact ⟨h.nums, fun _ _ _ => h.cur hc w.dts smp.ntp, fun e => absurd e hc⟩
  | case5 hc smp _ _ _ w _ _ sg _ _ sg2 =>
    have F := h.cur hc w.dts smp.ntp
    -- segment switch: the segment just written into is closed, it has a file
    obtain ⟨f, hf⟩ : ∃ f, segClose sg2 = some f := segClose_segWrite c sg w (rateOf c x.track)
    have hn : f.number = s.files.length := by rw [(segClose_some _ f hf).1, segWrite_number]; exact F.1
    refine ⟨?_, fun _ _ _ => ?_, fun e => absurd e hc⟩
    · simpa [hf] using range_succ_map s.files f h.nums hn
    · show curNext s = (s.files ++ (segClose sg2).toList).length ∧
        curNext s + 1 = (s.files ++ (segClose sg2).toList).length + 1 ∧ _
      rw [hf, F.2.1]
      exact ⟨by simp, by simp, fun p e => by cases e⟩
  | case6 hc smp _ _ _ w =>
    have F := h.cur hc w.dts smp.ntp
    exact ⟨h.nums, fun _ _ _ => ⟨(segWrite_number ..).trans F.1, F.2.1, segWrite_bound c _ _ _ F.2.2⟩,
      fun e => absurd e hc⟩

theorem run_inv (c : Cfg) (l : List In) (s : St) (h : Inv c s) : Inv c (run c s l) := by
  induction l generalizing s with
  | nil => exact h
  | cons x r ih => exact ih _ (write_inv c s x h)

/-- **Segment numbers**: for every sample sequence, at every moment (crash) and after a normal close, the
files of one recorder instance are numbered 0,1,2,… in creation order. -/
theorem numbers_consecutive (c : Cfg) (l : List In) :
    (close (run c (init c) l)).files.map (·.number) = List.range (close (run c (init c) l)).files.length ∧
    (crash (run c (init c) l)).map (·.number) = List.range (crash (run c (init c) l)).length := by
  have hi := run_inv c l (init c) (init_inv c)
  constructor
  · unfold close
    split
    · exact hi.nums
    · exact (closeInst_inv c _ hi).nums
  · unfold crash
    split
    · exact hi.nums
    · next sg hseg =>
      unfold segCrash
      split
      · simpa using hi.nums
      · exact range_succ_map _ ⟨sg.number, sg.startDTS, sg.startNTP, 0, sg.flushed, sg.trigger, 0⟩ hi.nums
          (hi.ofSeg hseg).1

/-- hence consecutive files of one instance are recognised as continuous by the playback server
(segmentFMP4CanBeConcatenated: same stream id, number + 1) -/
theorem consecutive_concat (sid n i : Nat) (hi : i + 1 < n) :
    canConcat sid ((List.range n)[i]'(by simp; omega)) sid ((List.range n)[i + 1]'(by simp; omega)) = true := by
  simp [canConcat]

/-- and files of different instances never are -/
theorem different_instance_no_concat (s1 s2 n1 n2 : Nat) (h : s1 ≠ s2) : canConcat s1 n1 s2 n2 = false := by
  simp [canConcat, h]

/-- **Loss bound**: at every moment of every recording, the part that exists only in memory consists of samples
that ended less than `partDuration` after the part's start, plus at most one more sample. -/
theorem unflushed_bound (c : Cfg) (l : List In) (sg : SegSt) (p : PartSt)
    (h1 : (run c (init c) l).seg = some sg) (h2 : sg.cur = some p) : PartBound c p :=
  ((run_inv c l (init c) (init_inv c)).ofSeg h1).2 p h2

/-- **Closed duration**: what the playback server reads back from a closed header is the segment's duration
`d = endDTS - startDTS` rounded down to the millisecond (for d < 2^32 ms ≈ 49 days). -/
theorem closed_duration (d : Nat) (h : d / 1000000 < u32) :
    readHdr ((d / 1000000) % u32) ≤ d ∧ d < readHdr ((d / 1000000) % u32) + 1000000 := by
  rw [Nat.mod_eq_of_lt h]
  unfold readHdr
  omega

/-! ### "segments begin with a random-access sample when the stream has video" -/

def OneVideo (c : Cfg) : Prop := ∀ a b, isVideo c a = true → isVideo c b = true → a = b

def pendSync (s : St) (V : Nat) : Prop := ∀ p, s.pend.getD V none = some p → p.nonSync = false

def firstSync (l : List WS) (V : Nat) : Prop := ∀ w, l.find? (fun w => w.track == V) = some w → w.nonSync = false

/-- the clause as the property words it, for every recording (gate + writer), at normal termination -/
def starts_with_sync_full : Prop :=
  ∀ (c : Cfg) (l : List In), ∀ f ∈ (close (grun c (init c) l)).files, fileSync c f = true

structure Good (c : Cfg) (s : St) : Prop where
  files : ∀ f ∈ s.files, fileSync c f = true
  /-- in the segment the next sample goes into, every video track starts with a random-access sample, and
  where it has none yet its pending sample is one -/
  cur : ¬ s.closed = true → ∀ d n V, isVideo c V = true →
    firstSync (segSamples (curSeg s d n)) V ∧ (segHas (curSeg s d n) V = false → pendSync s V)
  nov : s.hasVideo = false → ∀ V, isVideo c V = true → s.pend.getD V none = none

theorem fileSync_of (c : Cfg) (f : FileSt) (h : ∀ V, isVideo c V = true → firstSync (f.parts.flatMap (·.all)) V) :
    fileSync c f = true := by
  unfold fileSync
  rw [List.all_eq_true]
  intro V _
  cases hv : isVideo c V with
  | false => simp
  | true =>
    simp only [Bool.not_true, Bool.false_or]
    have := h V hv
    unfold firstOf
    cases hf : (f.parts.flatMap (·.all)).find? (fun w => w.track == V) with
    | none => rfl
    | some w => simp [this w hf]

theorem firstSync_nil (V : Nat) : firstSync [] V := by intro w h; simp at h

theorem firstSync_append (l : List WS) (w : WS) (V : Nat) (h : firstSync l V)
    (hw : l.any (fun x => x.track == V) = false → w.track = V → w.nonSync = false) : firstSync (l ++ [w]) V := by
  intro x hx
  rw [List.find?_append] at hx
  cases hl : l.find? (fun w => w.track == V) with
  | some y => rw [hl] at hx; simp at hx; subst hx; exact h y hl
  | none =>
    rw [hl] at hx
    simp at hx
    obtain ⟨h1, h2⟩ := hx
    subst h2
    exact hw (by simpa using hl) h1

theorem segHas_segWrite (c : Cfg) (sg : SegSt) (w : WS) (rate : Nat) (V : Nat) :
    segHas (segWrite c sg w rate) V = (segHas sg V || (w.track == V)) := by
  unfold segHas
  rw [segSamples_segWrite]
  simp [List.any_append]

theorem getD_set_cases (l : List (Option In)) (i V : Nat) (y p : In)
    (h : (l.set i (some y)).getD V none = some p) : (i = V ∧ p = y) ∨ (i ≠ V ∧ l.getD V none = some p) := by
  simp only [List.getD_eq_getElem?_getD, List.getElem?_set] at h ⊢
  by_cases e : i = V
  · subst e
    by_cases hi : i < l.length <;> simp [hi] at h
    exact Or.inl ⟨rfl, h.symm⟩
  · rw [if_neg e] at h
    exact Or.inr ⟨e, h⟩

theorem pendSync_set {s s' : St} {i V : Nat} {y : In} (hp : s'.pend = s.pend.set i (some y))
    (hy : i = V → y.nonSync = false) (h : i ≠ V → pendSync s V) : pendSync s' V := by
  intro p hp'
  rw [hp] at hp'
  rcases getD_set_cases _ _ _ _ _ hp' with ⟨e, rfl⟩ | ⟨e, hq⟩
  · exact hy e
  · exact h e p hq

theorem nov_set (c : Cfg) (s : St) (h : s.hasVideo = false → ∀ V, isVideo c V = true → s.pend.getD V none = none)
    (i : Nat) (y : In) (hhv : (s.hasVideo || isVideo c i) = false) (V : Nat) (hV : isVideo c V = true) :
    (s.pend.set i (some y)).getD V none = none := by
  simp only [Bool.or_eq_false_iff] at hhv
  cases hq : (s.pend.set i (some y)).getD V none with
  | none => rfl
  | some p =>
    rcases getD_set_cases _ _ _ _ _ hq with ⟨e, -⟩ | ⟨-, hq'⟩
    · rw [e, hV] at hhv; cases hhv.2
    · rw [h hhv.1 V hV] at hq'; cases hq'

theorem closeInst_keeps (s : St) :
    (closeInst s).hasVideo = s.hasVideo ∧ (closeInst s).pend = s.pend ∧ (closeInst s).drops = s.drops ∧
    (closeInst s).seg = none ∧ (closeInst s).closed = true := by
  unfold closeInst
  split
  · exact ⟨rfl, rfl, rfl, ‹_›, rfl⟩
  · exact ⟨rfl, rfl, rfl, rfl, rfl⟩

theorem freshSeg_samples (n d : Nat) (t : Int) (tr : Option Nat) : segSamples (freshSeg n d t tr) = [] := by
  simp [segSamples, segParts, freshSeg]

theorem files_append_close (c : Cfg) (files : List FileSt) (sg : SegSt)
    (hf : ∀ f ∈ files, fileSync c f = true) (hs : ∀ V, isVideo c V = true → firstSync (segSamples sg) V) :
    ∀ f ∈ files ++ (segClose sg).toList, fileSync c f = true := by
  intro f hmem
  rcases List.mem_append.mp hmem with hmem | hmem
  · exact hf f hmem
  · have hc : segClose sg = some f := by simpa using hmem
    apply fileSync_of
    intro V hV
    rw [(segClose_some sg f hc).2]
    exact hs V hV

theorem closeInst_files (c : Cfg) (s : St) (hf : ∀ f ∈ s.files, fileSync c f = true)
    (hs : ∀ V, isVideo c V = true → firstSync (segSamples (curSeg s 0 0)) V) :
    ∀ f ∈ (closeInst s).files, fileSync c f = true := by
  unfold closeInst
  split
  · exact hf
  · next sg hseg =>
    simp only [curSeg_of_some hseg] at hs
    exact files_append_close c s.files sg hf hs

theorem mkWS_track (c : Cfg) (x smp : In) : (mkWS c x smp).track = x.track := rfl
theorem mkWS_nonSync (c : Cfg) (x smp : In) : (mkWS c x smp).nonSync = smp.nonSync := rfl

/-- **one write keeps `Good`**, provided it records no late discard of a video track's first sample; stated
for the histories without any such discard so far -/
theorem write_good (c : Cfg) (hone : OneVideo c) (s : St) (x : In) (hG : s.drops = [] → Good c s)
    (hx : isVideo c x.track = true → s.pend.getD x.track none = none → x.nonSync = false) :
    (write c s x).drops = [] → Good c (write c s x) := by
  -- the sample written is a random-access one if it is the first of its (video) track in the segment
  have afterW : ∀ smp, ¬ s.closed = true → s.pend.getD x.track none = some smp → Good c s → ∀ V, isVideo c V = true →
      firstSync (segSamples (segWrite c (curSeg s (mkWS c x smp).dts smp.ntp) (mkWS c x smp) (rateOf c x.track))) V := by
    intro smp hc hsmp h V hV
    rw [segSamples_segWrite]
    refine firstSync_append _ _ V (h.cur hc _ _ V hV).1 (fun hany hT => ?_)
    subst hT
    exact (h.cur hc _ _ _ hV).2 hany smp hsmp
  fun_cases write c s x with
  | case1 => exact hG
  | case2 hc hnone =>
    -- first call for this track: the sample is only stored
    intro hnd
    have h := hG hnd
    refine ⟨h.files, fun _ d n V hV => ?_, nov_set c s h.nov x.track x⟩
    obtain ⟨h1, h2⟩ := h.cur hc d n V hV
    exact ⟨h1, fun hh => pendSync_set rfl (fun e => hx (e ▸ hV) hnone) (fun _ => h2 hh)⟩
  | case3 hc smp hsmp _ _ _ s1 =>
    -- drift error: the instance closes
    intro hnd
    obtain ⟨k1, k2, k3, -, k5⟩ := closeInst_keeps s1
    have h := hG (k3 ▸ hnd)
    refine ⟨closeInst_files c s1 h.files (fun V hV => (h.cur hc 0 0 V hV).1),
      fun e => absurd k5 e, fun hhv => ?_⟩
    rw [k2]
    exact nov_set c s h.nov x.track _ (k1.symm.trans hhv)
  | case4 hc smp hsmp _ _ w _ _ sg =>
    -- late sample discarded: no discard recorded, so its track already has a sample in the segment
    intro hnd
    have hd0 : s.drops = [] ∧ ¬ (isVideo c x.track = true ∧ segHas sg x.track = false) := by
      split at hnd
      · simp at hnd
      · next hc => exact ⟨hnd, by simpa using hc⟩
    have h := hG hd0.1
    refine ⟨h.files, fun _ _ _ V hV => ?_, nov_set c s h.nov x.track _⟩
    obtain ⟨h1, h2⟩ := h.cur hc w.dts smp.ntp V hV
    refine ⟨h1, fun hh => pendSync_set rfl (fun e => ?_) (fun _ => h2 hh)⟩
    subst e
    exact absurd ⟨hV, hh⟩ hd0.2
  | case5 hc smp hsmp _ _ _ _ _ _ _ _ _ hsw =>
    -- segment switch: the new segment is empty and the sample pending for its trigger is a key frame
    intro hnd
    have h := hG hnd
    refine ⟨files_append_close c s.files _ h.files (afterW smp hc hsmp h), fun _ _ _ V hV => ?_,
      nov_set c s h.nov x.track _⟩
    show firstSync (segSamples (freshSeg _ _ _ _)) V ∧ _
    rw [freshSeg_samples]
    simp only [switchCond, Bool.and_eq_true, Bool.or_eq_true, Bool.not_eq_true', decide_eq_true_eq] at hsw
    refine ⟨firstSync_nil V, fun _ => pendSync_set rfl (fun _ => hsw.1.2) (fun e p hp => ?_)⟩
    rcases hsw.1.1 with hnv | hvT
    · rw [h.nov (Bool.or_eq_false_iff.mp hnv).1 V hV] at hp; cases hp
    · exact absurd (hone _ _ hvT hV) e
  | case6 hc smp hsmp _ _ w =>
    -- ordinary write
    intro hnd
    have h := hG hnd
    refine ⟨h.files, fun _ _ _ V hV => ⟨afterW smp hc hsmp h V hV, fun hh => ?_⟩, nov_set c s h.nov x.track _⟩
    rw [show curSeg _ _ _ = segWrite c _ w _ from rfl, segHas_segWrite] at hh
    simp only [Bool.or_eq_false_iff] at hh
    exact pendSync_set rfl (fun e => by subst e; simp [w, mkWS_track] at hh)
      (fun _ => (h.cur hc w.dts smp.ntp V hV).2 hh.1)
theorem gwrite_good (c : Cfg) (hone : OneVideo c) (s : St) (x : In) (hG : s.drops = [] → Good c s) :
    (gwrite c s x).drops = [] → Good c (gwrite c s x) := by
  unfold gwrite
  split
  · exact hG
  · next hg =>
    refine write_good c hone s x hG (fun hv hn => ?_)
    simpa only [hv, hn, Option.isNone_none, Bool.and_self, Bool.true_and, Bool.not_eq_true] using hg

theorem init_good (c : Cfg) : Good c (init c) := by
  have hp : ∀ V, (init c).pend.getD V none = none := by
    intro V
    simp [init, List.getD_eq_getElem?_getD]
    by_cases hV : V < c.tracks.length <;> simp [hV]
  refine ⟨by simp [init], fun _ d n V _ => ⟨?_, fun _ p e => ?_⟩, fun _ V _ => hp V⟩
  · rw [show curSeg (init c) d n = freshSeg 0 d n from rfl, freshSeg_samples]; exact firstSync_nil V
  · rw [hp V] at e; cases e

theorem grun_good (c : Cfg) (hone : OneVideo c) (l : List In) (s : St) (h : s.drops = [] → Good c s) :
    (grun c s l).drops = [] → Good c (grun c s l) := by
  induction l generalizing s with
  | nil => exact h
  | cons x r ih => exact ih _ (gwrite_good c hone s x h)

theorem close_drops (s : St) : (close s).drops = s.drops := by
  unfold close
  split
  · rfl
  · exact (closeInst_keeps s).2.2.1

/-- **starts_with_sync, where it holds**: one video track, and no video sample was discarded as "received too late"
while its track had nothing in the segment yet (`drops = []`, decidable on the history; it is implied by
"no track is ever more than 1 s ahead of the video track and the first key frame is not older than the segment"). -/
theorem starts_with_sync_partial (c : Cfg) (l : List In) (hone : OneVideo c)
    (hnd : (close (grun c (init c) l)).drops = []) :
    ∀ f ∈ (close (grun c (init c) l)).files, fileSync c f = true := by
  have hd : (grun c (init c) l).drops = [] := close_drops _ ▸ hnd
  have hg := grun_good c hone l (init c) (fun _ => init_good c) hd
  unfold close
  split
  · exact hg.files
  · next hcl => exact closeInst_files c _ hg.files (fun V hV => (hg.cur hcl 0 0 V hV).1)

/-! #### the clause is false in general: three concrete histories (each replayed on the real recorder by the
harness scenarios 6, 7, 8; times in ms at a 1 kHz clock) -/

def ms (t d : Nat) (ns : Bool) (id : Nat) : In := ⟨t, d, (d : Int) * 1000000, ns, id⟩

/-- two video tracks: the switch is triggered by track 0's key frame; track 1's pending frame is not one -/
def cfg2v : Cfg := ⟨[⟨true, 1000⟩, ⟨true, 1000⟩], 1000000000, 1000000000⟩
def hist2v : List In :=
  [ms 0 0 false 1, ms 1 0 false 2, ms 0 500 true 3, ms 1 600 true 4, ms 0 1000 false 5, ms 1 1100 true 6, ms 0 1500 true 7]

theorem sync_witness_second_video :
    (close (grun cfg2v (init cfg2v) hist2v)).files.map (fileSync cfg2v) = [true, false] ∧
    (close (grun cfg2v (init cfg2v) hist2v)).drops = [] := by decide +kernel

/-- one video track, audio 1.5 s ahead: nextSegmentStartingPos ignores the key frame (more than 1 s behind the
newest pending sample), the new segment starts at the audio sample, the key frame is "received too late" -/
def cfgva : Cfg := ⟨[⟨true, 1000⟩, ⟨false, 1000⟩], 1000000000, 1000000000⟩
def histAhead : List In :=
  [ms 0 0 false 1, ms 1 0 false 2, ms 0 500 true 3, ms 1 2500 false 4, ms 0 1000 false 5, ms 0 1500 true 6,
   ms 0 2600 true 7, ms 0 2700 true 8, ms 1 3000 false 9]

theorem sync_witness_audio_ahead :
    (close (grun cfgva (init cfgva) histAhead)).files.map (fileSync cfgva) = [true, false] ∧
    (close (grun cfgva (init cfgva) histAhead)).drops = [(1, 0), (1, 0)] := by decide +kernel

/-- first segment: audio opened it at 0.5 s, the first key frame carries 0.4 s -/
def histLate : List In :=
  [ms 1 500 false 1, ms 1 600 false 2, ms 0 400 false 3, ms 0 450 true 4, ms 0 520 true 5, ms 0 560 true 6]

theorem sync_witness_late_keyframe :
    (close (grun cfgva (init cfgva) histLate)).files.map (fileSync cfgva) = [false] ∧
    (close (grun cfgva (init cfgva) histLate)).drops = [(0, 0), (0, 0)] := by decide +kernel

theorem starts_with_sync_witness : ¬ starts_with_sync_full := by
  intro h
  have h1 := sync_witness_late_keyframe.1
  rw [List.map_congr_left (h cfgva histLate)] at h1
  cases hf : (close (grun cfgva (init cfgva) histLate)).files <;> simp [hf] at h1

/-- "each segment on disk …": segments of one recording have distinct file names (start time to the µs) -/
def names_distinct_full : Prop :=
  ∀ (c : Cfg) (l : List In), ((close (grun c (init c) l)).files.map (fun f => f.startNTP / 1000)).Nodup

/-- segmentDuration 0.5 s, the audio track delivers one sample and stalls: every key frame closes the segment and
the next one starts again at the same pending audio sample -/
def cfgShort : Cfg := ⟨[⟨true, 1000⟩, ⟨false, 1000⟩], 500000000, 1000000000⟩
def histColl : List In := [ms 1 0 false 1, ⟨0, 0, 1000000, false, 2⟩, ms 0 600 false 3, ms 0 700 false 4, ms 0 800 false 5]

theorem name_collision_witness_value :
    (close (grun cfgShort (init cfgShort) histColl)).files.map (fun f => (f.number, f.startNTP / 1000)) =
      [(0, 1000), (1, 0), (2, 0)] := by decide +kernel

theorem names_distinct_witness : ¬ names_distinct_full := by
  intro h
  have := h cfgShort histColl
  -- the names are the second components of `name_collision_witness_value`: 1000, 0, 0
  rw [show (fun f : FileSt => f.startNTP / 1000) = Prod.snd ∘ fun f => (f.number, f.startNTP / 1000) from rfl,
    ← List.map_map, name_collision_witness_value] at this
  revert this
  decide

def exParts : List Part := [⟨[1, 2, 3], [9]⟩, ⟨[4], [8, 8]⟩]

example : (pre : Bytes) = pre := rfl
example : accepted 2 1000 exParts = [2, 22] := by decide +kernel
example : accepted 2 20 exParts = [] := by decide +kernel          -- mdat header of part 1 ends at 21
example : accepted 2 21 exParts = [2] := by decide +kernel         -- moof + mdat header inside, payload torn: counted
example : complete 2 21 exParts = [] := by decide +kernel
example : scan (image ([7, 7] ++ encParts exParts) 21 5) 30 2 = [2] := by decide +kernel

end MtxVerif.C27
