/-
C29 — playback list/get return exactly the recorded media in range.  Property theorems (headline statements; the
component theorems are in Lemmas/C29Core.lean and Lemmas/C29List.lean, both audited with this file).
-/
import MtxVerif.Lemmas.C29List

namespace MtxVerif.C29

/-- **list, end to end** (findSegments ∘ concatenate ∘ clip).  For every recording whose segments are strictly sorted by
start and `WF` (durations ≥ 0, ends non-decreasing, segments that are not merged do not overlap) and every request
interval `st ≤ fin`: if GET /list answers with spans they are time-ordered and disjoint, lie inside [st, fin], and
cover every recorded instant of [st, fin]; if it answers 404 nothing was recorded in [st, fin]. -/
theorem list_exact (segs : List Seg) (st fin : Int) (hs : Strict segs) (hwf : WF segs) (hsf : st ≤ fin) :
    (∀ out, listModel segs (some st) (some fin) = some out →
      Ordered out ∧ (∀ e ∈ out, st ≤ e.start ∧ e.fin ≤ fin) ∧
      (∀ s ∈ segs, ∀ t, s.start ≤ t → t ≤ s.fin → st ≤ t → t ≤ fin → ∃ e ∈ out, e.start ≤ t ∧ t ≤ e.fin)) ∧
    (listModel segs (some st) (some fin) = none →
      ∀ s ∈ segs, ∀ t, s.start ≤ t → t ≤ s.fin → st ≤ t → t ≤ fin → False) := by
  have hsel := findSegments_spec segs st fin hs
  unfold listModel
  cases hfs : findSegments segs (some st) (some fin) with
  | none =>
    rw [hfs] at hsel
    exact ⟨nofun, fun _ s hsm t h1 _ _ h4 => by have := hsel s hsm; omega⟩
  | some r =>
    rw [hfs] at hsel
    simp only []
    obtain ⟨pre, a, tl, post, rfl, hsplit, hpost, hrfin, hrtail, hrhead⟩ := hsel
    have hsel := findSegments_cover hwf rfl hsplit hpost hrhead
    have hwr : WF (a :: tl) := (hsplit ▸ hwf).append.1.append.2
    -- the spans of the kept segments: only the first can begin at or before `st`, all begin at or before `fin`
    have hord := concat_ordered _ hwr
    have hcover := concat_cover _ hwr
    obtain ⟨e0, et, hc, hc1, hc2⟩ := concatGo_head tl a ⟨a.start, a.dur⟩
    rw [show concatenate (a :: tl) = e0 :: et from hc] at hord hcover ⊢
    have het : ∀ x ∈ et, st ≤ x.start := fun x hx => by
      obtain ⟨y, hy, e'⟩ := hc2 x hx
      exact Int.le_of_lt (e' ▸ hrtail y hy)
    have hstarts : ∀ x ∈ e0 :: et, x.start ≤ fin := fun x hx => by
      rcases List.mem_cons.mp hx with rfl | hx
      · exact hc1 ▸ hrfin a List.mem_cons_self
      · obtain ⟨y, hy, e'⟩ := hc2 x hx
        exact e' ▸ hrfin y (List.mem_cons_of_mem _ hy)
    obtain ⟨l, hsub, hkeep, hclip⟩ := clipStart_kept het
    rw [hclip]
    -- an instant of [st, fin] inside a recorded segment is inside a span that is kept
    have hcov : ∀ s ∈ segs, ∀ t, s.start ≤ t → t ≤ s.fin → st ≤ t → t ≤ fin → ∃ e ∈ l, e.start ≤ t ∧ t ≤ e.fin :=
      fun s hsm t h1 h2 h3 h4 => by
        obtain ⟨s', hs', g1, g2⟩ := hsel s hsm t h1 h2 h3 h4
        obtain ⟨e, he, k1, k2⟩ := hcover s' hs'
        exact ⟨e, hkeep e he (by omega), by omega, by omega⟩
    cases l with
    | nil =>
      exact ⟨nofun, fun _ s hsm t h1 h2 h3 h4 => by obtain ⟨e, he, -⟩ := hcov s hsm t h1 h2 h3 h4; cases he⟩
    | cons x l =>
      refine ⟨fun out hout => ?_, nofun⟩
      obtain rfl := Option.some.inj hout
      have hafter : Ordered ((x :: l).map (Entry.after st)) :=
        List.Pairwise.map _ (fun a b hab => by rw [Entry.after_fin, Entry.after_start]; omega)
          (List.Pairwise.sublist hsub hord)
      rw [clipEnd_eq_map fin _ hafter fun y hy => by
        obtain ⟨z, hz, rfl⟩ := List.mem_map.mp hy
        have := hstarts z (hsub.subset hz)
        rw [Entry.after_start]
        omega]
      refine ⟨?_, fun e he => ?_, fun s hsm t h1 h2 h3 h4 => ?_⟩
      · refine List.Pairwise.map _ (fun a b hab => ?_) hafter
        rw [Entry.upTo_fin, Entry.upTo_start]
        omega
      · obtain ⟨y, hy, rfl⟩ := List.mem_map.mp he
        obtain ⟨z, hz, rfl⟩ := List.mem_map.mp hy
        rw [Entry.upTo_fin, Entry.upTo_start, Entry.after_start]
        omega
      · obtain ⟨e, he, k1, k2⟩ := hcov s hsm t h1 h2 h3 h4
        refine ⟨(e.after st).upTo fin, List.mem_map_of_mem (List.mem_map_of_mem he), ?_, ?_⟩
        · rw [Entry.upTo_start, Entry.after_start]
          omega
        · rw [Entry.upTo_fin, Entry.after_fin]
          omega

/-- spans are merged only along consecutive segments of one stream: one span per maximal run -/
theorem list_merge_only_consecutive (s : Seg) (r : List Seg) : (concatenate (s :: r)).length = 1 + breaks s r :=
  concatGo_length r s _

/-- **get, one track**: the client receives the window samples in recorded order, timestamps relative to the requested
start, preceded only (and only if the first is not a random-access sample) by the samples since the last
random-access point before the start -/
theorem get_track_exact (tid : Nat) (pre : List Smp) (v : Smp) (vis : List Smp)
    (hneg : ∀ s ∈ pre, s.dts < 0) (hv : 0 ≤ v.dts) (hpos : ∀ s ∈ vis, 0 ≤ s.dts) :
    let t := (pre ++ v :: vis).foldl muxStep { tid := tid }
    t.seenVisible = true ∧ t.firstDTS = v.dts ∧
    t.buf = (if v.nonSync then gop [] pre else []) ++ (v :: vis).map (·.id) := by
  intro t
  have e : t = { tid := tid, seenVisible := true, firstDTS := v.dts,
                 buf := (if v.nonSync then gop [] pre else []) ++ [v.id] ++ vis.map (·.id) } := by
    rw [show t = _ from List.foldl_append .., List.foldl_cons, mux_preroll pre _ hneg, muxStep_first hv rfl,
      mux_visible vis _ rfl hpos]
  rw [e]
  exact ⟨rfl, rfl, by simp⟩

/-- non-vacuity of the end-to-end hypotheses -/
example : Strict exSegs ∧ WF exSegs := by
  refine ⟨by simp [exSegs, Strict], by simp [exSegs, WF, Seg.fin]⟩

end MtxVerif.C29
