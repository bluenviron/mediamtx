/-
C31 — Segment operations identify segments by instant.  Property theorems.

`Fo` = calendar fields of the requested instant in the offset it was written with (what `time.Parse`
returns), `Fl` = fields of the same instant in the server's zone (what the recorder used).  `toks` =
tokens of the record path after the path name has been substituted (no `%path` left).
-/
import MtxVerif.Model.C31
import MtxVerif.Props.C26

namespace MtxVerif.C31
open MtxVerif.C26

theorem encodeA_congr (toks : List Tok) (A A' : Kind → Bytes)
    (h : ∀ k, Tok.cap k ∈ toks → A k = A' k) : encodeA toks A = encodeA toks A' := by
  unfold encodeA
  rw [List.flatMap_def, List.flatMap_def]
  congr 1
  apply List.map_congr_left
  intro t ht
  cases t with
  | lit b => rfl
  | cap k => exact h k ht

/-- **Name coincidence**: for admissible field texts, the names written from two tuples coincide iff
the tuples agree on the text of every placeholder that occurs in the record path. -/
theorem names_equal_iff (toks : List Tok) (h0 : pathCount toks = 0) (Fo Fl : Fields)
    (ho : fieldsOK toks Fo = true) (hl : fieldsOK toks Fl = true) :
    encode toks [] Fo = encode toks [] Fl ↔ ∀ k, Tok.cap k ∈ toks → val Fo k = val Fl k := by
  have hAo := admissible_assign toks [] Fo (by decide) ho
  have hAl := admissible_assign toks [] Fl (by decide) hl
  have hnp : ∀ k, Tok.cap k ∈ toks → k ≠ .path := by
    intro k hk e
    subst e
    exact pathFree_of_count toks h0 _ hk rfl
  rw [encode_eq_encodeA, encode_eq_encodeA]
  constructor
  · intro he k hk
    have hc : capsOf toks (assign [] Fo) = capsOf toks (assign [] Fl) :=
      render_inj toks (by omega) _ _ ((fits_capsOf_iff toks _).mpr hAo) ((fits_capsOf_iff toks _).mpr hAl)
        (by rw [render_capsOf, render_capsOf]; exact he)
    have h1 := congrArg (lastCap k) hc
    rw [lastCap_capsOf toks _ k hk, lastCap_capsOf toks _ k hk,
      assign_of_ne [] Fo (hnp k hk), assign_of_ne [] Fl (hnp k hk)] at h1
    exact Option.some.inj h1
  · intro h
    apply encodeA_congr
    intro k hk
    rw [assign_of_ne [] Fo (hnp k hk), assign_of_ne [] Fl (hnp k hk)]
    exact h k hk

/-! ### "whatever UTC offset the instant is written with" -/

/-- Full strength for the handler that encodes the parsed value as is (`convertsToLocal = false`, the
code before the fix): the same instant names the same file whatever offset it is written in.
**False** (witness below): finding F-C31. -/
def delete_offset_independent_full : Prop :=
  ∀ (toks : List Tok) (Fo Fl : Fields), pathCount toks = 0 → sameInstant Fo Fl = true →
    fieldsOK toks Fo = true → fieldsOK toks Fl = true → encode toks [] Fo = encode toks [] Fl

/-- Without conversion: outside the decidable class `offsetMismatch` the names coincide.  (`hcal`: the
calendar is a function — same instant read at the same offset gives the same tuple.) -/
theorem delete_offset_independent_partial (toks : List Tok) (Fo Fl : Fields) (h0 : pathCount toks = 0)
    (hs : sameInstant Fo Fl = true) (ho : fieldsOK toks Fo = true) (hl : fieldsOK toks Fl = true)
    (hcal : Fo.off = Fl.off → Fo = Fl) (hx : offsetMismatch toks Fo Fl = false) :
    encode toks [] Fo = encode toks [] Fl := by
  by_cases hoff : Fo.off = Fl.off
  · rw [hcal hoff]
  · have hzd : ∀ t ∈ toks, ¬ zoneDependent t = true := by
      simpa [offsetMismatch, hoff] using hx
    rw [names_equal_iff toks h0 Fo Fl ho hl]
    intro k hk
    have hz := hzd _ hk
    unfold sameInstant at hs
    simp only [Bool.and_eq_true, beq_iff_eq] at hs
    cases k <;> simp [zoneDependent] at hz
    · exact absurd rfl (pathFree_of_count toks h0 _ hk)
    · simp [val, hs.2]
    · simp [val, hs.1]

/-- With the conversion (`start.Local()` before `Encode`) the handler's file does not depend on the
written offset at all, and is computed from the very tuple the recorder used: **the property's first
half at full strength for the fixed handler.** -/
theorem delete_offset_independent_fixed (cwd fmt name : Bytes) (Fo Fo' Fl : Fields) :
    deleteFile true cwd fmt name Fo Fl = deleteFile true cwd fmt name Fo' Fl ∧
    deleteFile true cwd fmt name Fo Fl = C06.deleteTarget cwd fmt name (texts Fl) := ⟨rfl, rfl⟩

/-- Witness 1: format `%H`; 11:00Z on a server at +01:00 (local 12:00): the request written with `Z`
names file `11`, the recorder wrote `12`. -/
theorem delete_offset_independent_witness : ¬ delete_offset_independent_full := by
  intro h
  have := h [.cap .H] ⟨2023, 11, 14, 11, 0, 0, 0, 0, 1699959600⟩ ⟨2023, 11, 14, 12, 0, 0, 0, 3600, 1699959600⟩
    (by decide) (by decide) (by decide) (by decide)
  revert this
  decide

/-- Witness 2 (the dangerous half): the name computed for 11:00Z is the recorder's name of *another*
segment — the one that started at 11:00 local time, an hour earlier. -/
theorem wrong_segment_witness :
    encode [.cap .H] [] ⟨2023, 11, 14, 11, 0, 0, 0, 0, 1699959600⟩
      = encode [.cap .H] [] ⟨2023, 11, 14, 11, 0, 0, 0, 3600, 1699956000⟩ := by decide

/-- What listing/playback decode from a file name determines the name: writing the decoded texts back
gives the file again.  Together with the calendar round trip (`time.Date(fields, Local)` read back in
`Local` gives the fields again — oracle; false only for non-existent local times) this is "deleting the
start instant that listing reports removes that very file" for the converting handler. -/
theorem list_then_delete (toks : List Tok) (f : Bytes) (m : Match) (h : decode toks f = some m) :
    encodeA toks (fun k => (lastCap k m.caps).getD []) = f := by
  have hm := match_whole true true toks f m h (Or.inl rfl)
  have hcons : consistent m.caps = true := (decodeV_eq_some.mp h).2 rfl
  obtain ⟨hf, hs⟩ := (mem_allM toks f m.caps []).mp hm
  have he := fits_eq_capsOf toks m.caps (fun k => (lastCap k m.caps).getD []) hf (consistent_agree m.caps hcons)
  rw [hs, List.append_nil]
  conv => rhs; rw [he]
  rw [render_capsOf]

/-- and the decoded start is the one C26 describes: same decoder for listing (`FindSegments`), playback
(`FindSegments`) and the cleaner — they cannot disagree with each other. -/
theorem one_decoder (toks : List Tok) (f : Bytes) (m m' : Match)
    (h : decode toks f = some m) (h' : decode toks f = some m') : decodedStart m.caps = decodedStart m'.caps := by
  rw [h] at h'; cases h'; rfl

example : offsetMismatch [.cap .H] ⟨2023, 11, 14, 11, 0, 0, 0, 0, 1699959600⟩ ⟨2023, 11, 14, 12, 0, 0, 0, 3600, 1699959600⟩ = true
    ∧ offsetMismatch [.cap .s, .lit 45, .cap .f] ⟨2023, 11, 14, 11, 0, 0, 0, 0, 1699959600⟩ ⟨2023, 11, 14, 12, 0, 0, 0, 3600, 1699959600⟩ = false := by
  decide
/-- `%s-%f` names do not depend on the zone -/
example : encode [.cap .s, .lit 45, .cap .f] [] ⟨2023, 11, 14, 11, 0, 0, 7, 0, 1699959600⟩
    = encode [.cap .s, .lit 45, .cap .f] [] ⟨2023, 11, 14, 12, 0, 0, 7, 3600, 1699959600⟩ := by decide
/-- a `%z` in the name does not help: the zone text itself differs -/
example : encode [.cap .H, .cap .z] [] ⟨2023, 11, 14, 11, 0, 0, 0, 0, 1699959600⟩
    ≠ encode [.cap .H, .cap .z] [] ⟨2023, 11, 14, 12, 0, 0, 0, 3600, 1699959600⟩ := by decide

/-- segments sorted by strictly increasing start (distinct files have distinct starts). -/
def Sorted (l : List (Bytes × Int)) : Prop := l.Pairwise (fun a b => a.2 < b.2)

theorem Sorted.head_le {a x : Bytes × Int} {t : List (Bytes × Int)} (hs : Sorted (a :: t)) (hx : x ∈ a :: t) :
    a.2 ≤ x.2 := by
  rcases List.mem_cons.mp hx with rfl | hm
  · exact Int.le_refl _
  · exact Int.le_of_lt ((List.pairwise_cons.mp hs).1 x hm)

theorem dropTo_exact (l : List (Bytes × Int)) (hs : Sorted l) (x : Bytes × Int) (hx : x ∈ l) :
    ∃ r, dropTo x.2 l = x :: r := by
  induction l with
  | nil => cases hx
  | cons a t ih =>
    cases t with
    | nil => exact ⟨[], by rw [List.mem_singleton.mp hx]; rfl⟩
    | cons b r =>
      rw [Sorted, List.pairwise_cons] at hs
      rw [dropTo]
      rcases List.mem_cons.mp hx with rfl | hm
      · -- `x` is the first segment: the next one starts later
        exact ⟨b :: r, if_pos ⟨Int.le_refl _, hs.1 b List.mem_cons_self⟩⟩
      · -- `x` comes later: it does not start before the second segment
        have hb : b.2 ≤ x.2 := Sorted.head_le hs.2 hm
        rw [if_neg fun hc => by omega]
        exact ih hs.2 hm

/-- **`FindSegments` with the start bound set to the listed start of a segment returns that segment
first** (so playback `/get` and `/list?start=` address the segment the listings mean), for every sorted
list of recognised segments. -/
theorem selectFrom_exact (l : List (Bytes × Int)) (hs : Sorted l) (x : Bytes × Int) (hx : x ∈ l) :
    ∃ r, selectFrom l x.2 = some (x :: r) := by
  obtain ⟨r, hr⟩ := dropTo_exact l hs x hx
  cases l with
  | nil => cases hx
  | cons a t =>
    rw [selectFrom, if_neg (Int.not_lt.mpr (Sorted.head_le hs hx)), hr]
    cases r with
    | nil => exact ⟨[], if_neg (Int.lt_irrefl _)⟩
    | cons y ys => exact ⟨y :: ys, rfl⟩

end MtxVerif.C31
