/-
C33 — MoQ reorderer delivers groups in order with bounded buffering.  Property theorems.
-/
import MtxVerif.Model.C33
import MtxVerif.Lemmas.SortedPrefix

namespace MtxVerif.C33

/-- strictly increasing ids -/
def Sorted (l : List SG) : Prop := l.Pairwise (fun a b => a.id < b.id)

/-- Invariant of every reachable state. -/
structure Inv (lim : Limits) (s : St) : Prop where
  sorted : Sorted s.pending
  above : ∀ x ∈ s.pending, s.cur < x.id
  bytes : s.bytes = sumSize s.pending
  cnt : s.pending.length ≤ lim.maxReordered
  byt : sumSize s.pending ≤ lim.maxPendingBytes
  uninit : s.init = false → s.pending = []

theorem sumSize_cons (x : SG) (l : List SG) : sumSize (x :: l) = x.size + sumSize l := rfl

theorem sumSize_append (a b : List SG) : sumSize (a ++ b) = sumSize a + sumSize b := by
  rw [sumSize, List.map_append, List.sum_append]
  rfl

theorem sumSize_sublist {a b : List SG} (h : a.Sublist b) : sumSize a ≤ sumSize b := by
  induction h with
  | slnil => exact Nat.le_refl _
  | cons x _ ih => exact Nat.le_trans ih (Nat.le_add_left _ _)
  | cons_cons x _ ih => exact Nat.add_le_add_left ih _

theorem mem_ins {sg x : SG} {l : List SG} (h : Sorted l) : x ∈ ins sg l ↔ x = sg ∨ (x ∈ l ∧ x.id ≠ sg.id) := by
  fun_induction ins sg l with
  | case1 => simp
  | case2 y ys hlt =>
    rw [List.mem_cons]
    refine or_congr_right ⟨fun hx => ⟨hx, fun e => ?_⟩, (·.1)⟩
    rcases List.mem_cons.mp hx with rfl | hx
    · omega
    · have := List.rel_of_pairwise_cons h hx
      omega
  | case3 y ys _ heq =>
    rw [List.mem_cons, List.mem_cons]
    refine or_congr_right ⟨fun hx => ⟨.inr hx, fun e => ?_⟩,
      fun ⟨hx, ne⟩ => hx.resolve_left fun e => ne (e ▸ heq.symm)⟩
    have := List.rel_of_pairwise_cons h hx
    omega
  | case4 y ys _ hne ih =>
    rw [List.mem_cons, ih (List.Pairwise.of_cons h), List.mem_cons, or_left_comm, or_and_right]
    exact or_congr_right (or_congr_left (iff_self_and.mpr fun e => e ▸ Ne.symm hne))

theorem sorted_ins {sg : SG} {l : List SG} (h : Sorted l) : Sorted (ins sg l) := by
  fun_induction ins sg l with
  | case1 => exact List.pairwise_singleton _ _
  | case2 y ys hlt =>
    refine List.pairwise_cons.mpr ⟨fun a ha => ?_, h⟩
    rcases List.mem_cons.mp ha with rfl | ha
    · exact hlt
    · exact Nat.lt_trans hlt (List.rel_of_pairwise_cons h ha)
  | case3 y ys _ heq =>
    exact List.pairwise_cons.mpr ⟨fun a ha => heq ▸ List.rel_of_pairwise_cons h ha, List.Pairwise.of_cons h⟩
  | case4 y ys _ _ ih =>
    refine List.pairwise_cons.mpr ⟨fun a ha => ?_, ih (List.Pairwise.of_cons h)⟩
    rcases (mem_ins (List.Pairwise.of_cons h)).mp ha with rfl | ⟨ha, -⟩
    · omega
    · exact List.rel_of_pairwise_cons h ha

theorem length_ins_le (sg : SG) (l : List SG) : (ins sg l).length ≤ l.length + 1 := by
  fun_induction ins sg l with
  | case1 => exact Nat.le_refl _
  | case2 => exact Nat.le_refl _
  | case3 => exact Nat.le_succ _
  | case4 y ys _ _ ih => exact Nat.succ_le_succ ih

theorem prevSize_of_lt {id : Nat} : ∀ {l : List SG}, (∀ a ∈ l, id < a.id) → prevSize id l = 0
  | [], _ => rfl
  | z :: zs, h => by
    rw [prevSize, if_neg (Nat.ne_of_gt (h z List.mem_cons_self))]
    exact prevSize_of_lt fun a ha => h a (List.mem_cons_of_mem _ ha)

/-- byte accounting of the map update: new sum + replaced size = old sum + new size. -/
theorem sumSize_ins {sg : SG} {l : List SG} (h : Sorted l) :
    sumSize (ins sg l) + prevSize sg.id l = sumSize l + sg.size := by
  fun_induction ins sg l with
  | case1 => exact Nat.add_comm _ _
  | case2 y ys hlt =>
    rw [prevSize_of_lt fun a ha => (List.mem_cons.mp ha).elim (· ▸ hlt) fun ha =>
      Nat.lt_trans hlt (List.rel_of_pairwise_cons h ha), sumSize_cons]
    omega
  | case3 y ys _ heq =>
    rw [prevSize, if_pos heq.symm, sumSize_cons, sumSize_cons]
    omega
  | case4 y ys _ hne ih =>
    have := ih (List.Pairwise.of_cons h)
    rw [prevSize, if_neg (Ne.symm hne), sumSize_cons, sumSize_cons]
    omega

theorem filter_ins_sublist (q : SG → Bool) (sg : SG) (hq : ∀ x, x.id = sg.id → q x = false) (l : List SG) :
    ((ins sg l).filter q).Sublist l := by
  have hsg : ¬ q sg = true := by rw [hq sg rfl]; exact Bool.false_ne_true
  fun_induction ins sg l with
  | case1 =>
    rw [List.filter_cons_of_neg hsg]
    exact .slnil
  | case2 y ys =>
    rw [List.filter_cons_of_neg hsg]
    exact List.filter_sublist
  | case3 y ys =>
    rw [List.filter_cons_of_neg hsg]
    exact List.filter_sublist.trans (List.sublist_cons_self y ys)
  | case4 y ys _ _ ih =>
    rw [List.filter_cons]
    split
    · exact ih.cons_cons y
    · exact ih.cons y

theorem consec_spec : ∀ (l : List SG) (c : Nat), Sorted l → (∀ x ∈ l, c < x.id) →
    (consec c l).1 ++ (consec c l).2.2 = l ∧ c ≤ (consec c l).2.1 ∧
      (∀ x ∈ (consec c l).1, x.id ≤ (consec c l).2.1) ∧
      ∀ x ∈ (consec c l).2.2, (consec c l).2.1 < x.id
  | [], _, _, _ => ⟨rfl, Nat.le_refl _, nofun, nofun⟩
  | x :: xs, c, hs, ha => by
    obtain ⟨hx, hxs⟩ := List.pairwise_cons.mp hs
    rw [consec]
    split
    · rename_i heq
      obtain ⟨h1, h2, h3, h4⟩ := consec_spec xs (c + 1) hxs fun y hy => heq ▸ hx y hy
      refine ⟨congrArg (x :: ·) h1, Nat.le_of_succ_le h2, fun y hy => ?_, h4⟩
      rcases List.mem_cons.mp hy with rfl | hy
      · exact heq ▸ h2
      · exact h3 y hy
    · exact ⟨rfl, Nat.le_refl _, nofun, ha⟩

theorem filter_le_ins {sg : SG} {l : List SG} (h : Sorted l) (hl : ∀ x ∈ l, sg.id ≤ x.id) :
    (ins sg l).filter (fun x => decide (x.id ≤ sg.id)) = [sg] := by
  -- `ins` puts `sg` in front of entries with a larger id
  have hnil : ∀ t : List SG, (∀ x ∈ t, sg.id < x.id) → (sg :: t).filter (fun x => decide (x.id ≤ sg.id)) = [sg] :=
    fun t ht => by
      rw [List.filter_cons_of_pos (p := fun x : SG => decide (x.id ≤ sg.id)) (decide_eq_true (Nat.le_refl _)),
        List.filter_eq_nil_iff.mpr fun x hx => by have := ht x hx; simpa using this]
  cases l with
  | nil => exact hnil [] nofun
  | cons y ys =>
    obtain ⟨hy, hys⟩ := List.pairwise_cons.mp h
    have hy' := hl y List.mem_cons_self
    rw [ins]
    split
    · rename_i hlt
      exact hnil _ fun x hx => (List.mem_cons.mp hx).elim (· ▸ hlt) fun hx => Nat.lt_trans hlt (hy x hx)
    · rw [if_pos (by omega)]
      exact hnil _ fun x hx => Nat.lt_of_le_of_lt hy' (hy x hx)

structure FlushOK (s : St) (maxId : Nat) (s' : St) (out : List SG) : Prop where
  split : out ++ s'.pending = s.pending
  outLe : ∀ x ∈ out, x.id ≤ s'.cur
  pendAbove : ∀ x ∈ s'.pending, s'.cur < x.id
  curGe : maxId ≤ s'.cur
  bytes : s'.bytes = sumSize s'.pending
  initEq : s'.init = s.init

theorem flushUpTo_ok (s : St) (maxId : Nat) (hs : Sorted s.pending) (ha : ∀ x ∈ s.pending, s.cur < x.id)
    (hb : s.bytes = sumSize s.pending) :
    FlushOK s maxId (flushUpTo s maxId).1 (flushUpTo s maxId).2 := by
  have hin : ∀ x ∈ s.pending, inRange s.cur maxId x = decide (x.id ≤ maxId) := fun x hx =>
    decide_eq_decide.mpr (and_iff_right (ha x hx))
  have hsplit := filter_split (fun x => decide (x.id ≤ maxId)) hs fun a b hab hb =>
    decide_eq_true (Nat.le_trans (Nat.le_of_lt hab) (of_decide_eq_true hb))
  rw [← List.filter_congr hin, ← List.filter_congr fun x hx => congrArg (!·) (hin x hx)] at hsplit
  have hrest : ∀ x ∈ s.pending.filter (fun x => !inRange s.cur maxId x), maxId < x.id := fun x hx => by
    have h := (List.mem_filter.mp hx)
    rw [hin x h.1] at h
    simpa using h.2
  obtain ⟨c1, c2, c3, c4⟩ := consec_spec _ maxId (hs.filter _) hrest
  have hsum : sumSize s.pending = sumSize (s.pending.filter (inRange s.cur maxId)) +
      (sumSize (consec maxId (s.pending.filter fun x => !inRange s.cur maxId x)).1 +
        sumSize (consec maxId (s.pending.filter fun x => !inRange s.cur maxId x)).2.2) := by
    rw [← sumSize_append, c1, ← sumSize_append, hsplit]
  unfold flushUpTo
  refine ⟨?_, fun x hx => ?_, c4, c2, ?_, rfl⟩
  · simp only []
    rw [List.append_assoc, c1, hsplit]
  · rcases List.mem_append.mp hx with hx | hx
    · have h := List.mem_filter.mp hx
      rw [hin x h.1] at h
      exact Nat.le_trans (of_decide_eq_true h.2) c2
    · exact c3 x hx
  · simp only []
    rw [hb, sumSize_append, hsum]
    omega

/-- What one push guarantees, from any state satisfying the invariant. -/
structure PushOK (lim : Limits) (s : St) (sg : SG) (s' : St) (out : List SG) : Prop where
  inv : Inv lim s'
  init' : s'.init = true
  outSorted : Sorted out
  /-- everything handed on is newer than what was handed on before, and not newer than the new `cur` -/
  outRange : ∀ x ∈ out, (s.init = true → s.cur < x.id) ∧ x.id ≤ s'.cur
  curMono : s.init = true → s.cur ≤ s'.cur
  /-- each handed-on subgroup is the one just received or one held back (never invented) -/
  outRecv : ∀ x ∈ out, x = sg ∨ (x ∈ s.pending ∧ x.id ≠ sg.id)
  /-- the direct successor of the last delivered group is delivered immediately -/
  nextNow : s.init = true → sg.id = s.cur + 1 → sg ∈ out
  /-- the very first subgroup is delivered immediately -/
  firstNow : s.init = false → out = [sg]
  /-- whatever is still held back is the subgroup just received or one held before with another id -/
  pendRecv : ∀ x ∈ s'.pending, x = sg ∨ (x ∈ s.pending ∧ x.id ≠ sg.id)

theorem pushOK_direct {lim : Limits} {s : St} {sg : SG} (h : Inv lim s) (hp : s.pending = [])
    (hn : s.init = true → sg.id = s.cur + 1) :
    PushOK lim s sg { s with init := true, cur := sg.id } [sg] where
  inv := ⟨h.sorted, fun x hx => absurd (hp ▸ hx) List.not_mem_nil, h.bytes, h.cnt, h.byt, nofun⟩
  init' := rfl
  outSorted := List.pairwise_singleton _ _
  outRange x hx := by
    rw [List.mem_singleton.mp hx]
    exact ⟨fun hi => by rw [hn hi]; exact Nat.lt_succ_self _, Nat.le_refl _⟩
  curMono hi := by rw [hn hi]; exact Nat.le_succ _
  outRecv x hx := .inl (List.mem_singleton.mp hx)
  nextNow _ _ := List.mem_singleton_self sg
  firstNow _ := rfl
  pendRecv x hx := absurd (hp ▸ hx) List.not_mem_nil

theorem push_ok (lim : Limits) (s : St) (sg : SG) (h : Inv lim s) :
    PushOK lim s sg (push lim s sg).1 (push lim s sg).2 := by
  unfold push
  cases hi : s.init
  · -- first push
    exact pushOK_direct h (h.uninit hi) fun e => by rw [hi] at e; cases e
  · simp only [Bool.not_true, Bool.false_eq_true, if_false]
    by_cases hle : sg.id ≤ s.cur
    · -- an old group: dropped
      rw [if_pos hle]
      exact ⟨h, hi, List.Pairwise.nil, nofun, fun _ => Nat.le_refl _, nofun, fun _ e => by omega,
        fun e => (by rw [hi] at e; cases e), fun x hx => .inr ⟨hx, by have := h.above x hx; omega⟩⟩
    · rw [if_neg hle]
      by_cases hnx : sg.id = s.cur + 1 ∧ s.pending.isEmpty = true
      · -- the direct successor, nothing held back
        rw [if_pos hnx]
        exact pushOK_direct h (List.isEmpty_iff.mp hnx.2) fun _ => hnx.1
      · -- the general branch: update the map, then maybe flush
        rw [if_neg hnx]
        have hS := sorted_ins (sg := sg) h.sorted
        have hrecv := fun x => (mem_ins (sg := sg) (x := x) h.sorted).mp
        have hA : ∀ x ∈ ins sg s.pending, s.cur < x.id := fun x hx => by
          rcases hrecv x hx with rfl | ⟨hx, -⟩
          · omega
          · exact h.above x hx
        have hB : (s.bytes - (prevSize sg.id s.pending : Int) + (sg.size : Int)) =
            (sumSize (ins sg s.pending) : Nat) := by
          have := sumSize_ins (sg := sg) h.sorted
          rw [h.bytes]
          omega
        -- a flush at `sg.id` from the updated state hands on a prefix of the map that contains `sg`
        have hflush : ∀ s' out,
            FlushOK { s with init := true, pending := ins sg s.pending,
                             bytes := s.bytes - prevSize sg.id s.pending + sg.size } sg.id s' out →
            PushOK lim s sg s' out := fun s' out F => by
          have hsplit : out ++ s'.pending = ins sg s.pending := F.split
          have hsp : Sorted (out ++ s'.pending) := hsplit ▸ hS
          obtain ⟨hso, hsp', -⟩ := List.pairwise_append.mp hsp
          have hout : ∀ x ∈ out, x ∈ ins sg s.pending := fun x hx => hsplit ▸ List.mem_append_left _ hx
          have hpend : ∀ x ∈ s'.pending, x ∈ ins sg s.pending := fun x hx => hsplit ▸ List.mem_append_right _ hx
          -- what is kept lies above `sg.id`, so it was in the map before the update
          have hsub : s'.pending.Sublist s.pending := by
            rw [← List.filter_eq_self.mpr fun x hx =>
              decide_eq_true (Nat.lt_of_le_of_lt F.curGe (F.pendAbove x hx) : sg.id < x.id)]
            exact ((hsplit ▸ List.sublist_append_right out s'.pending).filter _).trans
              (filter_ins_sublist _ sg (fun x e => by simp [e]) s.pending)
          refine ⟨⟨hsp', F.pendAbove, F.bytes, Nat.le_trans hsub.length_le h.cnt,
            Nat.le_trans (sumSize_sublist hsub) h.byt, fun e => by rw [F.initEq] at e; cases e⟩, F.initEq, hso,
            fun x hx => ⟨fun _ => hA x (hout x hx), F.outLe x hx⟩, fun _ => by have := F.curGe; omega,
            fun x hx => hrecv x (hout x hx), fun _ _ => ?_, fun e => (by rw [hi] at e; cases e),
            fun x hx => hrecv x (hpend x hx)⟩
          have hm : sg ∈ out ++ s'.pending := hsplit ▸ (mem_ins h.sorted).mpr (.inl rfl)
          exact (List.mem_append.mp hm).resolve_right fun hx => by
            have := F.pendAbove sg hx
            have := F.curGe
            omega
        have hf := hflush _ _ (flushUpTo_ok { s with init := true, pending := ins sg s.pending,
                                                       bytes := s.bytes - prevSize sg.id s.pending + sg.size }
          sg.id hS hA hB)
        by_cases h1 : ((ins sg s.pending).filter (fun x => decide (x.id ≤ sg.id))).length = sg.id - s.cur
        · rw [if_pos h1]
          exact hf
        · rw [if_neg h1]
          by_cases h2 : (ins sg s.pending).length > lim.maxReordered
          · rw [if_pos h2]
            exact hf
          · rw [if_neg h2]
            by_cases h3 : s.bytes - prevSize sg.id s.pending + sg.size > lim.maxPendingBytes
            · rw [if_pos h3]
              exact hf
            · -- held back, no flush: the limits are respected because the guards were false
              rw [if_neg h3]
              refine ⟨⟨hS, hA, hB, Nat.le_of_not_gt h2, ?_, nofun⟩, rfl,
                List.Pairwise.nil, nofun, fun _ => Nat.le_refl _, nofun, fun _ hnext => ?_,
                fun e => (by rw [hi] at e; cases e), hrecv⟩
              · have h3' : ¬ (s.bytes - (prevSize sg.id s.pending : Int) + (sg.size : Int) > lim.maxPendingBytes) :=
                  h3
                show sumSize (ins sg s.pending) ≤ lim.maxPendingBytes
                omega
              -- `sg.id = cur + 1` cannot end here: `sg` alone is in range, so the count equals the distance
              rw [filter_le_ins h.sorted fun x hx => by have := h.above x hx; omega] at h1
              exact absurd (by rw [hnext]; simp) h1

/-- The initial state satisfies the invariant (for any limits). -/
theorem inv_init (lim : Limits) : Inv lim {} :=
  ⟨List.Pairwise.nil, nofun, rfl, Nat.zero_le _, Nat.zero_le _, fun _ => rfl⟩

/-- `hist` = everything received so far, latest first; `Latest hist x` : `x` is the most recent
subgroup received with its id. -/
def Latest (hist : List SG) (x : SG) : Prop := hist.find? (fun y => y.id == x.id) = some x

/-- One push: everything handed on, and everything still held back, is the most recent subgroup
received for its id (a re-sent group replaces the held one). -/
theorem push_latest (lim : Limits) (s : St) (sg : SG) (hist : List SG) (h : Inv lim s)
    (hl : ∀ x ∈ s.pending, Latest hist x) :
    (∀ x ∈ (push lim s sg).2, Latest (sg :: hist) x) ∧
    (∀ x ∈ (push lim s sg).1.pending, Latest (sg :: hist) x) := by
  have P := push_ok lim s sg h
  have key : ∀ x, x = sg ∨ (x ∈ s.pending ∧ x.id ≠ sg.id) → Latest (sg :: hist) x := by
    rintro x (rfl | ⟨hm, hid⟩)
    · exact List.find?_cons_of_pos (l := hist) (beq_self_eq_true _)
    · rw [Latest, List.find?_cons_of_neg (by simpa using fun e => hid e.symm)]
      exact hl x hm
  exact ⟨fun x hx => key x (P.outRecv x hx), fun x hx => key x (P.pendRecv x hx)⟩

/-- **Whole-history theorem.**  From any state satisfying the invariant, for every sequence of pushes:
the invariant (hence both buffering bounds, after every push) holds, the concatenation of everything
handed on is strictly increasing in group id (so no id is handed on twice), every handed-on id is newer
than the starting `cur`, every handed-on subgroup was received, and what is held back is always the
latest subgroup received for its id. -/
theorem run_ok (lim : Limits) (l : List SG) : ∀ (s : St) (hist : List SG), Inv lim s →
    (∀ x ∈ s.pending, Latest hist x) →
    Inv lim (run lim s l).1 ∧ Sorted (run lim s l).2.flatten ∧
    (s.init = true → ∀ x ∈ (run lim s l).2.flatten, s.cur < x.id) ∧
    (∀ x ∈ (run lim s l).2.flatten, x ∈ l ∨ x ∈ s.pending) ∧
    (∀ x ∈ (run lim s l).1.pending, Latest (l.reverse ++ hist) x) := by
  induction l with
  | nil => exact fun s hist h hl => ⟨h, List.Pairwise.nil, fun _ => nofun, nofun, hl⟩
  | cons sg rest ih =>
    intro s hist h hl
    have P := push_ok lim s sg h
    obtain ⟨i1, i2, i3, i4, i5⟩ := ih (push lim s sg).1 (sg :: hist) P.inv (push_latest lim s sg hist h hl).2
    refine ⟨i1, ?_, fun hi x hx => ?_, fun x hx => ?_, ?_⟩
    · show Sorted ((push lim s sg).2 ++ (run lim (push lim s sg).1 rest).2.flatten)
      exact List.pairwise_append.mpr
        ⟨P.outSorted, i2, fun a ha b hb => Nat.lt_of_le_of_lt (P.outRange a ha).2 (i3 P.init' b hb)⟩
    · rcases List.mem_append.mp (show x ∈ (push lim s sg).2 ++ _ from hx) with hx | hx
      · exact (P.outRange x hx).1 hi
      · exact Nat.lt_of_le_of_lt (P.curMono hi) (i3 P.init' x hx)
    · rcases List.mem_append.mp (show x ∈ (push lim s sg).2 ++ _ from hx) with hx | hx
      · exact (P.outRecv x hx).elim (fun e => .inl (e ▸ List.mem_cons_self)) fun h => .inr h.1
      · rcases i4 x hx with hm | hm
        · exact .inl (List.mem_cons_of_mem _ hm)
        · exact (P.pendRecv x hm).elim (fun e => .inl (e ▸ List.mem_cons_self)) fun h => .inr h.1
    · rw [List.reverse_cons, List.append_assoc]
      exact i5

/-- Corollary for a fresh reorderer: the stated property for every push sequence and all limits. -/
theorem fresh_ok (lim : Limits) (l : List SG) :
    Sorted (run lim {} l).2.flatten ∧ (∀ x ∈ (run lim {} l).2.flatten, x ∈ l) ∧
    (run lim {} l).1.pending.length ≤ lim.maxReordered ∧
    sumSize (run lim {} l).1.pending ≤ lim.maxPendingBytes ∧
    (run lim {} l).1.bytes = sumSize (run lim {} l).1.pending := by
  obtain ⟨i1, i2, _, i4, _⟩ := run_ok lim l {} [] (inv_init lim) nofun
  exact ⟨i2, fun x hx => (i4 x hx).resolve_right List.not_mem_nil, i1.cnt, i1.byt, i1.bytes⟩

/-- No group id is handed on twice. -/
theorem fresh_nodup (lim : Limits) (l : List SG) :
    ((run lim {} l).2.flatten.map (·.id)).Nodup := by
  rw [List.Nodup, List.pairwise_map]
  exact (fresh_ok lim l).1.imp Nat.ne_of_lt

/-- Non-vacuity: a concrete history with a hole, a duplicate, a late group and a forced flush. -/
example : (run ⟨2, 100⟩ {} [⟨5,1,0⟩, ⟨7,1,1⟩, ⟨7,2,2⟩, ⟨4,1,3⟩, ⟨6,1,4⟩, ⟨10,1,5⟩, ⟨12,1,6⟩, ⟨14,1,7⟩]).2
    = [[⟨5,1,0⟩], [], [], [], [⟨6,1,4⟩, ⟨7,2,2⟩], [], [], [⟨10,1,5⟩, ⟨12,1,6⟩, ⟨14,1,7⟩]] := by decide

end MtxVerif.C33
