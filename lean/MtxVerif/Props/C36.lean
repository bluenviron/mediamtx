/-
C36 — metrics exposition is always valid and faithful.  Property theorems.

`parse (render …) = …` for the escaping renderer on *all* byte strings; for the verbatim renderer
under the side condition `safeValue` (no `"`, `\`, line feed in label values), with machine-checked
counterexamples outside it.
-/
import MtxVerif.Model.C36

namespace MtxVerif.C36

-- found at once; the search otherwise walks the order classes of `UInt8` at every use
local instance : LawfulBEq UInt8 := instLawfulBEq

/-- bytes on different sides of a class differ (the class of a literal byte is decided by evaluation) -/
theorem ne_of_class {p : UInt8 → Bool} {c d : UInt8} (hc : p c = true) (hd : p d = false) : c ≠ d :=
  fun h => Bool.noConfusion ((h ▸ hc).symm.trans hd)

theorem not_mem_of_class {p : UInt8 → Bool} {l : Bytes} {d : UInt8} (h : ∀ x ∈ l, p x = true)
    (hd : p d = false) : d ∉ l :=
  fun hm => ne_of_class (h d hm) hd rfl

theorem notBlank_of_class {p : UInt8 → Bool} {c : UInt8} (hc : p c = true) (h32 : p 32 = false)
    (h9 : p 9 = false) : isBlank c = false := by
  simp only [isBlank, Bool.or_eq_false_iff, beq_eq_false_iff_ne]
  exact ⟨ne_of_class hc h32, ne_of_class hc h9⟩

theorem nameStart_of_labelStart {c : UInt8} (h : isLabelStart c = true) : isNameStart c = true := by
  simp [isNameStart, h]

theorem nameChar_of_nameStart {c : UInt8} (h : isNameStart c = true) : isNameChar c = true := by
  simp [isNameChar, h]

theorem labelChar_of_labelStart {c : UInt8} (h : isLabelStart c = true) : isLabelChar c = true := by
  simp [isLabelChar, h]

theorem span_stop {p : UInt8 → Bool} {k : Bytes} {c : UInt8} (r : Bytes)
    (hk : ∀ x ∈ k, p x = true) (hc : p c = false) :
    (k ++ c :: r).takeWhile p = k ∧ (k ++ c :: r).dropWhile p = c :: r := by
  have hc' : ¬ p c = true := by simp [hc]
  rw [List.takeWhile_append_of_pos hk, List.dropWhile_append_of_pos hk, List.takeWhile_cons_of_neg hc',
    List.dropWhile_cons_of_neg hc', List.append_nil]
  exact ⟨rfl, rfl⟩

theorem span_all {p : UInt8 → Bool} {k : Bytes} (hk : ∀ x ∈ k, p x = true) :
    k.takeWhile p = k ∧ k.dropWhile p = [] := by
  have := List.takeWhile_append_of_pos (l₂ := []) hk
  have := List.dropWhile_append_of_pos (l₂ := []) hk
  simp_all

theorem skipBlanks_cons {c : UInt8} {r : Bytes} (h : isBlank c = false) : skipBlanks (c :: r) = c :: r :=
  List.dropWhile_cons_of_neg (by simp [h])

/-- the parser decodes exactly what `escape` encoded, whatever the bytes -/
theorem readValue_escape (v rest : Bytes) : readValue (escape v ++ 34 :: rest) = some (v, rest) := by
  induction v with
  | nil => rw [escape, List.nil_append, readValue.eq_def]; simp
  | cons c cs ih =>
    unfold escape
    by_cases h1 : c = 92
    · subst h1; rw [readValue.eq_def]; simp [ih]
    · by_cases h2 : c = 34
      · subst h2; rw [readValue.eq_def]; simp [ih]
      · by_cases h3 : c = 10
        · subst h3; rw [readValue.eq_def]; simp [ih]
        · rw [readValue.eq_def]; simp [h1, h2, h3, ih]

theorem escape_safe (v : Bytes) (h : safeValue v = true) : escape v = v := by
  induction v with
  | nil => rfl
  | cons c cs ih =>
    simp only [safeValue, List.all_cons, Bool.and_eq_true, bne_iff_ne, ne_eq] at h
    rw [escape, if_neg h.1.1.2, if_neg h.1.1.1, if_neg h.1.2, ih h.2]

theorem escape_no_lf (v : Bytes) : 10 ∉ escape v := by
  induction v with
  | nil => exact List.not_mem_nil
  | cons a as ih =>
    unfold escape
    by_cases h1 : a = 92
    · simp [h1, ih]
    · by_cases h2 : a = 34
      · simp [h2, ih]
      · by_cases h3 : a = 10
        · simp [h3, ih]
        · simp [h1, h2, h3, ih, Ne.symm h3]

theorem validLabelName_chars {k : Bytes} (h : validLabelName k = true) :
    ∃ c kr, k = c :: kr ∧ isLabelStart c = true ∧ ∀ x ∈ c :: kr, isLabelChar x = true := by
  cases k with
  | nil => simp [validLabelName] at h
  | cons c kr =>
    simp only [validLabelName, Bool.and_eq_true, List.all_eq_true] at h
    exact ⟨c, kr, rfl, h.1, List.forall_mem_cons.mpr ⟨labelChar_of_labelStart h.1, h.2⟩⟩

/-- one `k="v"` step of the label parser -/
theorem readLabels_step (f : Nat) (p : Label) (X : Bytes) (hk : validLabelName p.1 = true) :
    readLabels (f + 1) (renderPair escape p ++ X) =
      match skipBlanks X with
      | [] => none
      | s :: r5 =>
        if s = 44 then (readLabels f r5).map fun r => (p :: r.1, r.2)
        else if s = 125 then some ([p], r5)
        else none := by
  obtain ⟨k, v⟩ := p
  obtain ⟨c, kr, rfl, hc, hall⟩ := validLabelName_chars hk
  have hlc := labelChar_of_labelStart hc
  obtain ⟨e2, e3⟩ := span_stop (34 :: (escape v ++ 34 :: X)) hall (c := 61) rfl
  rw [List.cons_append] at e2 e3
  simp only [renderPair, List.append_assoc, List.cons_append, List.nil_append]
  rw [readLabels, skipBlanks_cons (notBlank_of_class hlc rfl rfl)]
  simp only [if_neg (ne_of_class hlc (d := 125) rfl), hc, e2, e3, skipBlanks_cons (c := 61) rfl,
    skipBlanks_cons (c := 34) rfl, readValue_escape, Bool.not_true, Bool.false_eq_true, if_false, ne_eq,
    not_true_eq_false]
  cases skipBlanks X <;> rfl

theorem length_le_renderPairs (esc : Bytes → Bytes) (ls : List Label) :
    ls.length ≤ (renderPairs esc ls).length + 1 := by
  induction ls with
  | nil => exact Nat.zero_le _
  | cons p tl ih =>
    cases tl with
    | nil => exact Nat.le_add_left _ _
    | cons q tl' =>
      simp only [renderPairs, List.length_append, List.length_cons, List.length_nil] at ih ⊢
      omega

/-- the label parser reads back exactly the rendered label set (escaping renderer, all byte strings) -/
theorem readLabels_render (ls : List Label) (hl : ∀ p ∈ ls, validLabelName p.1 = true) :
    ∀ (fuel : Nat) (rest : Bytes), ls.length < fuel →
      readLabels fuel (renderPairs escape ls ++ 125 :: rest) = some (ls, rest) := by
  induction ls with
  | nil =>
    intro fuel rest hf
    obtain ⟨f, rfl⟩ := Nat.exists_eq_add_one_of_ne_zero (Nat.ne_of_gt hf)
    rw [renderPairs, List.nil_append, readLabels, skipBlanks_cons rfl]
    rfl
  | cons p tl ih =>
    intro fuel rest hf
    obtain ⟨f, rfl⟩ := Nat.exists_eq_add_one_of_ne_zero (Nat.ne_of_gt (Nat.zero_lt_of_lt hf))
    have hp := hl p List.mem_cons_self
    cases tl with
    | nil =>
      rw [renderPairs, readLabels_step f p _ hp, skipBlanks_cons rfl]
      rfl
    | cons q tl' =>
      rw [renderPairs, List.append_assoc, List.append_assoc, readLabels_step f p _ hp, List.singleton_append,
        skipBlanks_cons rfl]
      simp only [if_true, ih (fun x hx => hl x (List.mem_cons_of_mem _ hx)) f rest (Nat.lt_of_succ_lt_succ hf),
        Option.map_some]

theorem ofNat_digit (ch : Char) (h : ch.isDigit = true) : isDigit (UInt8.ofNat ch.toNat) = true := by
  rw [Char.isDigit_iff_toNat] at h
  have a : '0'.toNat = 48 := rfl
  have b : '9'.toNat = 57 := rfl
  have : (UInt8.ofNat ch.toNat).toNat = ch.toNat := by
    rw [UInt8.toNat_ofNat']; exact Nat.mod_eq_of_lt (by omega)
  simp only [isDigit, Bool.and_eq_true, decide_eq_true_eq, UInt8.le_iff_toNat_le, this]
  have c1 : (48 : UInt8).toNat = 48 := rfl
  have c2 : (57 : UInt8).toNat = 57 := rfl
  omega

theorem fmtNat_digits (n : Nat) : ∀ c ∈ fmtNat n, isDigit c = true := by
  intro c hc
  obtain ⟨ch, hch, rfl⟩ := List.mem_map.mp hc
  exact ofNat_digit ch (Nat.isDigit_of_mem_toDigits (by decide) (by decide) hch)

theorem fmtNat_ne_nil (n : Nat) : fmtNat n ≠ [] := by
  simp [fmtNat, Nat.toDigits_ne_nil]

theorem fmtInt_chars (v : Int) : ∀ c ∈ fmtInt v, c = 45 ∨ isDigit c = true := by
  intro c hc
  unfold fmtInt at hc
  split at hc
  · exact (List.mem_cons.mp hc).imp id (fmtNat_digits _ c)
  · exact .inr (fmtNat_digits _ c hc)

theorem isIntTok_fmtInt (v : Int) : isIntTok (fmtInt v) = true := by
  have hd := fmtNat_digits v.natAbs
  have hne := fmtNat_ne_nil v.natAbs
  unfold fmtInt
  split
  · simp only [isIntTok, beq_self_eq_true, Bool.true_or, if_true, Bool.and_eq_true, Bool.not_eq_true',
      List.isEmpty_eq_false_iff, List.all_eq_true]
    exact ⟨hne, hd⟩
  · cases hn : fmtNat v.natAbs with
    | nil => exact absurd hn hne
    | cons d ds =>
      rw [hn] at hd
      have hdd := hd d List.mem_cons_self
      simp only [isIntTok, beq_eq_false_iff_ne.mpr (ne_of_class hdd (d := 45) rfl),
        beq_eq_false_iff_ne.mpr (ne_of_class hdd (d := 43) rfl), Bool.or_self, Bool.false_eq_true, if_false,
        List.all_eq_true]
      exact hd

/-- whatever `strconv.FormatInt` prints is a value token -/
theorem goodVal_fmtInt (v : Int) : goodVal (fmtInt v) = true := by
  simp only [goodVal, isValueTok, isIntTok_fmtInt, Bool.true_or, Bool.true_and, List.all_eq_true]
  intro c hc
  rcases fmtInt_chars v c hc with rfl | hd
  · rfl
  · simp [notBlank_of_class hd rfl rfl, ne_of_class hd (d := 10) rfl, ne_of_class hd (d := 123) rfl]

theorem goodVal_chars {v : Bytes} (h : goodVal v = true) :
    (∃ c r, v = c :: r) ∧ ∀ c ∈ v, isBlank c = false ∧ c ≠ 10 ∧ c ≠ 123 := by
  simp only [goodVal, Bool.and_eq_true, List.all_eq_true, Bool.not_eq_true', bne_iff_ne, ne_eq, and_assoc] at h
  refine ⟨?_, h.2⟩
  cases v with
  | nil => exact absurd h.1 (by decide)
  | cons c r => exact ⟨c, r, rfl⟩

theorem validName_chars {n : Bytes} (h : validName n = true) :
    ∃ c nr, n = c :: nr ∧ isNameStart c = true ∧ ∀ x ∈ c :: nr, isNameChar x = true := by
  cases n with
  | nil => simp [validName] at h
  | cons c nr =>
    simp only [validName, Bool.and_eq_true, List.all_eq_true] at h
    exact ⟨c, nr, rfl, h.1, List.forall_mem_cons.mpr ⟨nameChar_of_nameStart h.1, h.2⟩⟩

/-- tail of the line after the label set: ` value` -/
theorem parse_tail (name : Bytes) (labels : List Label) (val : Bytes) (hv : goodVal val = true) :
    (let r5 := skipBlanks (32 :: val)
     let v := r5.takeWhile (fun c => !isBlank c)
     let r6 := skipBlanks (r5.dropWhile (fun c => !isBlank c))
     let ts := r6.takeWhile (fun c => !isBlank c)
     let r7 := skipBlanks (r6.dropWhile (fun c => !isBlank c))
     if isValueTok v && (ts.isEmpty || isIntTok ts) && r7.isEmpty then some (Sample.mk name labels v)
     else none) = some ⟨name, labels, val⟩ := by
  obtain ⟨⟨c, r, rfl⟩, hall⟩ := goodVal_chars hv
  obtain ⟨e2, e3⟩ := span_all (p := fun c => !isBlank c) (k := c :: r) (fun x hx => by simp [(hall x hx).1])
  have e1 : List.dropWhile isBlank (32 :: c :: r) = c :: r :=
    (List.dropWhile_cons_of_pos rfl).trans (skipBlanks_cons (hall c List.mem_cons_self).1)
  have hvt : isValueTok (c :: r) = true := by
    simp only [goodVal, Bool.and_eq_true] at hv; exact hv.1
  simp only [skipBlanks, e1, e2, e3, List.dropWhile_nil, List.takeWhile_nil, List.isEmpty_nil, hvt, Bool.true_or,
    Bool.and_self, if_true]

/-- **Line theorem (escaping renderer, all byte strings).**  A sample rendered with a label set is
parsed back to exactly its name, its labels (every value byte for byte) and its value token. -/
theorem parse_render_escaped (name : Bytes) (ls : List Label) (val : Bytes)
    (hn : validName name = true) (hl : ∀ p ∈ ls, validLabelName p.1 = true) (hv : goodVal val = true) :
    parseSample (sampleLine name (renderTags escape ls) val) = some ⟨name, ls, val⟩ := by
  obtain ⟨c, nr, rfl, hc, hall⟩ := validName_chars hn
  have hnc := nameChar_of_nameStart hc
  have eL : sampleLine (c :: nr) (renderTags escape ls) val =
      c :: (nr ++ 123 :: (renderPairs escape ls ++ 125 :: (32 :: val))) := by
    simp [sampleLine, renderTags]
  obtain ⟨e2, e3⟩ := span_stop (renderPairs escape ls ++ 125 :: (32 :: val)) hall (c := 123) rfl
  have e5 := readLabels_render ls hl ((renderPairs escape ls ++ 125 :: (32 :: val)).length + 1) (32 :: val)
    (by have := length_le_renderPairs escape ls
        simp only [List.length_append, List.length_cons] at this ⊢; omega)
  rw [List.cons_append] at e2 e3
  rw [eL, parseSample, skipBlanks_cons (notBlank_of_class hnc rfl rfl)]
  simp only [hc, Bool.not_true, Bool.false_eq_true, if_false, e2, e3, skipBlanks_cons (c := 123) rfl, if_true, e5]
  exact parse_tail (c :: nr) ls val hv

/-- **Line theorem, no label set** (`metric(out, key, "", 0)`). -/
theorem parse_render_notags (name val : Bytes) (hn : validName name = true) (hv : goodVal val = true) :
    parseSample (sampleLine name [] val) = some ⟨name, [], val⟩ := by
  obtain ⟨c, nr, rfl, hc, hall⟩ := validName_chars hn
  have hnc := nameChar_of_nameStart hc
  obtain ⟨⟨d, r, rfl⟩, hvall⟩ := goodVal_chars hv
  have hd := hvall d List.mem_cons_self
  have eL : sampleLine (c :: nr) [] (d :: r) = c :: (nr ++ 32 :: (d :: r)) := by
    simp [sampleLine]
  obtain ⟨e2, e3⟩ := span_stop (d :: r) hall (c := 32) rfl
  have e4 : skipBlanks (32 :: d :: r) = d :: r :=
    (List.dropWhile_cons_of_pos rfl).trans (skipBlanks_cons hd.1)
  have := parse_tail (c :: nr) [] (d :: r) hv
  rw [List.cons_append] at e2 e3
  rw [eL, parseSample, skipBlanks_cons (notBlank_of_class hnc rfl rfl)]
  simp only [e4] at this
  simp only [hc, Bool.not_true, Bool.false_eq_true, if_false, e2, e3, e4, hd.2.2, skipBlanks_cons hd.1]
  exact this

/-- **`metric` after the repair, all byte strings**: what `metric(out, key, tags(m), v)` writes (with the
escaping `tags`) parses back to the key, the map's pairs in key order with their exact values, and
the decimal text of `v`. -/
theorem parse_metric_escaped (key : Bytes) (m : List Label) (v : Int) (hn : validName key = true)
    (hl : ∀ p ∈ m, validLabelName p.1 = true) :
    metric key (tagsEsc m) v = sampleLine key (tagsEsc m) (fmtInt v) ++ [10] ∧
    parseSample (sampleLine key (tagsEsc m) (fmtInt v)) = some ⟨key, sortLabels m, fmtInt v⟩ :=
  ⟨rfl, parse_render_escaped key (sortLabels m) (fmtInt v) hn (fun p hp => hl p (List.mem_mergeSort.mp hp))
    (goodVal_fmtInt v)⟩

theorem renderPairs_safe (ls : List Label) (hs : ∀ p ∈ ls, safeValue p.2 = true) :
    renderPairs id ls = renderPairs escape ls := by
  induction ls with
  | nil => rfl
  | cons p tl ih =>
    have hp := escape_safe p.2 (hs p List.mem_cons_self)
    cases tl with
    | nil => simp only [renderPairs, renderPair, id, hp]
    | cons q tl' =>
      have := ih (fun x hx => hs x (List.mem_cons_of_mem _ hx))
      simp only [renderPairs, renderPair, id, hp] at this ⊢
      rw [this]

/-- The property for the verbatim renderer, as stated (all client-supplied strings). -/
def raw_full : Prop :=
  ∀ (name : Bytes) (ls : List Label) (val : Bytes), validName name = true →
    (∀ p ∈ ls, validLabelName p.1 = true) → goodVal val = true →
    parseSample (sampleLine name (renderTags id ls) val) = some ⟨name, ls, val⟩

/-- It holds exactly on the decidable class `safeValue`. -/
theorem raw_partial (name : Bytes) (ls : List Label) (val : Bytes) (hn : validName name = true)
    (hl : ∀ p ∈ ls, validLabelName p.1 = true) (hv : goodVal val = true)
    (hs : ∀ p ∈ ls, safeValue p.2 = true) :
    parseSample (sampleLine name (renderTags id ls) val) = some ⟨name, ls, val⟩ := by
  rw [renderTags, renderPairs_safe ls hs]
  exact parse_render_escaped name ls val hn hl hv

/-- witness: `a{k="""} 1` — a double quote in a label value makes the line unparsable -/
theorem raw_witness : ¬ raw_full := by
  intro h
  have := h (asc ['a']) [(asc ['k'], asc ['"'])] (asc ['1']) (by decide) (by decide) (by decide)
  revert this
  decide

/-- witness: a path named `x",evil="1` forges a second label -/
theorem raw_forges_label :
    parseSample (sampleLine (asc ['a']) (renderTags id [(asc ['p'], asc ['x', '"', ',', 'e', '=', '"', '1'])]) (asc ['0']))
      = some ⟨asc ['a'], [(asc ['p'], asc ['x']), (asc ['e'], asc ['1'])], asc ['0']⟩ := by
  decide

/-- witness: a trailing backslash swallows the closing quote -/
theorem raw_backslash_breaks :
    parseSample (sampleLine (asc ['a']) (renderTags id [(asc ['p'], asc ['x', '\\'])]) (asc ['0'])) = none := by
  decide

theorem splitLines_line (l rest acc : Bytes) (hl : 10 ∉ l) :
    splitLines (l ++ 10 :: rest) acc = (acc.reverse ++ l) :: splitLines rest [] := by
  induction l generalizing acc with
  | nil => simp [splitLines]
  | cons a as ih =>
    simp only [List.cons_append, splitLines, if_neg (List.ne_of_not_mem_cons hl).symm,
      ih (a :: acc) (List.not_mem_of_not_mem_cons hl), List.reverse_cons, List.append_assoc, List.cons_append, List.nil_append]

def validItem : Item → Bool
  | .comment t => t.all (· != 10)
  | .blank => true
  | .sample s => validSample s

theorem renderPairs_no_lf (ls : List Label) (hl : ∀ p ∈ ls, validLabelName p.1 = true) :
    10 ∉ renderPairs escape ls := by
  induction ls with
  | nil => exact List.not_mem_nil
  | cons p tl ih =>
    have hp : 10 ∉ renderPair escape p := by
      obtain ⟨c0, kr, hk, _, hall⟩ := validLabelName_chars (hl p List.mem_cons_self)
      have : 10 ∉ p.1 := hk ▸ not_mem_of_class hall rfl
      simp [renderPair, this, escape_no_lf]
    cases tl with
    | nil => exact hp
    | cons q tl' => simp [renderPairs, hp, ih (fun x hx => hl x (List.mem_cons_of_mem _ hx))]

/-- what one item renders to: a line without line feed, then a line feed -/
def itemLine : Item → Bytes
  | .comment t => [35, 32] ++ t
  | .blank => []
  | .sample s => sampleLine s.name (if s.labels.isEmpty then [] else renderTags escape s.labels) s.value

theorem itemLine_no_lf (it : Item) (h : validItem it = true) : 10 ∉ itemLine it := by
  cases it with
  | comment t =>
    simp only [validItem, List.all_eq_true, bne_iff_ne] at h
    simpa [itemLine] using fun hm => h 10 hm rfl
  | blank => exact List.not_mem_nil
  | sample s =>
    simp only [validItem, validSample, Bool.and_eq_true, List.all_eq_true] at h
    obtain ⟨c0, nr, hn, _, hnall⟩ := validName_chars h.1.1
    have h1 : 10 ∉ s.name := hn ▸ not_mem_of_class hnall rfl
    have h2 : 10 ∉ s.value := fun hm => ((goodVal_chars h.2).2 10 hm).2.1 rfl
    have h3 := renderPairs_no_lf s.labels h.1.2
    simp only [itemLine, sampleLine]
    split <;> simp [renderTags, h1, h2, h3]

theorem parseLines_itemLine (it : Item) (h : validItem it = true) (ls : List Bytes) :
    parseLines (itemLine it :: ls) = (parseLines ls).map (samplesOf [it] ++ ·) := by
  cases it with
  | comment t => rw [parseLines, if_pos (by rfl)]; cases parseLines ls <;> rfl
  | blank => rw [parseLines, if_pos (by rfl)]; cases parseLines ls <;> rfl
  | sample s =>
    simp only [validItem, validSample, Bool.and_eq_true, List.all_eq_true] at h
    obtain ⟨c0, nr, hn, hc0, _⟩ := validName_chars h.1.1
    have hnc := nameChar_of_nameStart hc0
    have hns : isSkippable (itemLine (.sample s)) = false := by
      simp only [itemLine, sampleLine, hn, List.cons_append, isSkippable,
        skipBlanks_cons (notBlank_of_class hnc rfl rfl), beq_eq_false_iff_ne]
      exact ne_of_class hnc rfl
    have hps : parseSample (itemLine (.sample s)) = some s := by
      simp only [itemLine]
      split
      · rename_i he
        obtain ⟨name, labels, value⟩ := s
        obtain rfl : labels = [] := List.isEmpty_iff.mp he
        exact parse_render_notags name value h.1.1 h.2
      · exact parse_render_escaped s.name s.labels s.value h.1.1 h.1.2 h.2
    rw [parseLines, hns, if_neg Bool.false_ne_true, hps]
    rfl

/-- **Document theorem (escaping renderer, all byte strings).**  Whatever `onMetrics` assembles from
comment lines, blank lines and samples — with arbitrary label values — is a valid exposition, and
parsing it yields exactly the samples that were written, in order. -/
theorem parseDoc_renderDoc_escaped (d : List Item) (hd : ∀ it ∈ d, validItem it = true) :
    parseDoc (renderDoc escape d) = some (samplesOf d) := by
  unfold parseDoc
  induction d with
  | nil => rfl
  | cons it rest ih =>
    have hit := hd it List.mem_cons_self
    have e : renderDoc escape (it :: rest) = itemLine it ++ 10 :: renderDoc escape rest := by
      cases it <;> simp [renderDoc, renderItem, itemLine]
    rw [e, splitLines_line _ _ _ (itemLine_no_lf it hit), List.reverse_nil, List.nil_append,
      parseLines_itemLine it hit, ih (fun x hx => hd x (List.mem_cons_of_mem _ hx)), Option.map_some]
    cases it <;> rfl

/-- the verbatim renderer agrees with the escaping one on documents whose label values are safe -/
theorem renderDoc_raw_eq (d : List Item)
    (hs : ∀ it ∈ d, match it with | .sample s => s.labels.all (fun p => safeValue p.2) = true | _ => True) :
    renderDoc id d = renderDoc escape d := by
  induction d with
  | nil => rfl
  | cons it rest ih =>
    have h1 := hs it List.mem_cons_self
    have e : renderItem id it = renderItem escape it := by
      cases it with
      | sample s => simp only [renderItem, renderTags, renderPairs_safe s.labels (fun p hp => List.all_eq_true.mp h1 p hp)]
      | _ => rfl
    simp only [renderDoc, List.flatMap_cons] at ih ⊢
    rw [e, ih (fun x hx => hs x (List.mem_cons_of_mem _ hx))]
/-- The document-level property for the verbatim renderer, as stated. -/
def raw_doc_full : Prop :=
  ∀ d : List Item, (∀ it ∈ d, validItem it = true) → parseDoc (renderDoc id d) = some (samplesOf d)

theorem raw_doc_partial (d : List Item) (hd : ∀ it ∈ d, validItem it = true)
    (hs : ∀ it ∈ d, match it with | .sample s => s.labels.all (fun p => safeValue p.2) = true | _ => True) :
    parseDoc (renderDoc id d) = some (samplesOf d) := by
  rw [renderDoc_raw_eq d hs]; exact parseDoc_renderDoc_escaped d hd

/-- the forged exposition is even *valid* — it just reports samples that were never written -/
theorem raw_doc_forges :
    parseDoc (renderDoc id [.sample ⟨asc ['a'], [(asc ['p'], asc ['x', '"', '}', ' ', '1', '\n', 'b', ' ', '7', '\n', 'a', '{', 'p', '=', '"'])], asc ['0']⟩])
      = some [⟨asc ['a'], [(asc ['p'], asc ['x'])], asc ['1']⟩, ⟨asc ['b'], [], asc ['7']⟩,
              ⟨asc ['a'], [(asc ['p'], [])], asc ['0']⟩] := by
  decide

/-- witness: a line feed in a path name injects a whole forged sample line (`b 7`): the exposition of
`raw_doc_forges` -/
theorem raw_doc_witness : ¬ raw_doc_full := by
  intro h
  have := h [.sample ⟨asc ['a'], [(asc ['p'], asc ['x', '"', '}', ' ', '1', '\n', 'b', ' ', '7', '\n', 'a', '{', 'p', '=', '"'])], asc ['0']⟩]
    (by decide)
  rw [raw_doc_forges] at this
  cases this

example : validSample ⟨asc ['p', 'a', 't', 'h', 's'], [(asc ['n', 'a', 'm', 'e'], asc ['a', '"', '\\', '\n'])], asc ['1']⟩ = true := by
  decide

example : parseSample (sampleLine (asc ['p']) (renderTags escape [(asc ['n'], asc ['a', '"', '\\', '\n'])]) (asc ['1', '.', '5']))
    = some ⟨asc ['p'], [(asc ['n'], asc ['a', '"', '\\', '\n'])], asc ['1', '.', '5']⟩ := by decide

example : goodVal (asc ['+', 'I', 'n', 'f']) = true ∧ goodVal (asc ['N', 'a', 'N']) = true ∧
    goodVal (asc ['0', '.', '0', '0', '1']) = true ∧ goodVal (asc ['1', 'e', '+', '0', '6']) = true ∧
    goodVal (asc ['1', '.']) = true ∧ goodVal (asc ['.']) = false ∧ goodVal (asc ['1', ' ']) = false := by decide

end MtxVerif.C36
