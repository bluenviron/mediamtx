/-
C37 — structured log lines are valid JSON.  Property theorems (model = the `encoding/json` string
encoding the code uses since /repo b0a84c7).

* the property:                                    `LogLineJSON_full` (def), **`log_line_json`** (proved for
  every timestamp text, level and message byte string, incl. control bytes and invalid UTF-8)
* what the current source calls (Gen/C37):         `tie_stdout`, `tie_file`
* spec adequacy ("exactly one line"):              `parseLine_one_line`
* regressions of the pre-fix routine (`strconv.Quote`: `\a`, `\x01`, `\xff` are not JSON): decided examples
-/
import MtxVerif.Model.C37
import MtxVerif.Gen.C37

namespace MtxVerif.C37

theorem dec_s0 (c : UInt8) (r : Bytes) : dec .s0 (c :: r) =
    if c = QUOTE then some ([], r) else if c = BS then dec .s1 r else if c.toNat < 0x20 then none
    else (dec .s0 r).map fun p => (c :: p.1, p.2) := rfl

theorem dec_su (n acc : Nat) (hi : Option Nat) (c : UInt8) (r : Bytes) : dec (.su n acc hi) (c :: r) =
    match hexVal c with
    | none => none
    | some d =>
      if n < 3 then dec (.su (n + 1) (acc * 16 + d) hi) r
      else match finishU (acc * 16 + d) hi with
        | .inl bs => (dec .s0 r).map fun p => (bs ++ p.1, p.2)
        | .inr (some h) => dec (.sh h) r
        | .inr none => none := rfl

/-- a byte that the string reader copies -/
def Plain (c : UInt8) : Prop := c ≠ QUOTE ∧ c ≠ BS ∧ ¬ c.toNat < 0x20

instance : DecidablePred Plain := fun c => by unfold Plain; exact inferInstance

theorem plain_of_ge {c : UInt8} (h : 0x80 ≤ c.toNat) : Plain c := by
  refine ⟨?_, ?_, by omega⟩
  · intro e; subst e; revert h; decide
  · intro e; subst e; revert h; decide

theorem dec_plain_cons {c : UInt8} (h : Plain c) (r : Bytes) :
    dec .s0 (c :: r) = (dec .s0 r).map fun p => (c :: p.1, p.2) := by
  rw [dec_s0, if_neg h.1, if_neg h.2.1, if_neg h.2.2]

theorem dec_plain (l rest : Bytes) (h : ∀ c ∈ l, Plain c) :
    dec .s0 (l ++ rest) = (dec .s0 rest).map fun p => (l ++ p.1, p.2) := by
  induction l with
  | nil => rw [List.nil_append]; cases dec .s0 rest <;> rfl
  | cons c l ih =>
    obtain ⟨hc, hl⟩ := List.forall_mem_cons.mp h
    rw [List.cons_append, dec_plain_cons hc, ih hl]
    cases dec .s0 rest <;> rfl

theorem hexVal_hexDigit (n : Nat) (h : n < 16) : hexVal (hexDigit n) = some n := by
  have key : ∀ k : Fin 16, hexVal (hexDigit k.val) = some k.val := by decide
  exact key ⟨n, h⟩

/-- `\uXXXX` for a non-surrogate BMP value reads back as the UTF-8 encoding of that value -/
theorem dec_u4 (v : Nat) (hv : v < 0x10000) (hs : ¬ (0xD800 ≤ v ∧ v ≤ 0xDFFF)) (rest : Bytes) :
    dec .s0 (BS :: 117 :: (hex4 v ++ rest)) = (dec .s0 rest).map fun p => (utf8enc v ++ p.1, p.2) := by
  have e : (((0 * 16 + v / 4096 % 16) * 16 + v / 256 % 16) * 16 + v / 16 % 16) * 16 + v % 16 = v := by omega
  have hf : finishU v none = .inl (utf8enc v) := by
    rw [finishU, if_neg (by omega), if_neg (by omega)]
  have lt16 (n : Nat) : n % 16 < 16 := Nat.mod_lt _ (by decide)
  show dec (.su 0 0 none) (hexDigit _ :: hexDigit _ :: hexDigit _ :: hexDigit _ :: rest) = _
  -- four steps of the `\u` state: each digit is recognised and accumulated; the fourth ends the escape
  simp only [dec_su, hexVal_hexDigit _ (lt16 _), Nat.reduceAdd, Nat.reduceLT, reduceIte, e, hf]

theorem dec_fffd (X : Bytes) :
    dec .s0 (BS :: 117 :: 102 :: 102 :: 102 :: 100 :: X) = (dec .s0 X).map fun p => (FFFD ++ p.1, p.2) :=
  dec_u4 0xFFFD (by decide) (by decide) X

theorem utf8enc_ascii {c : UInt8} (h : c.toNat < 0x80) : utf8enc c.toNat = [c] := by
  rw [utf8enc, if_pos h, UInt8.ofNat_toNat]

/-- `\u00hh` reads back as the byte `hh` (for ASCII `hh`) -/
theorem dec_u00 {c : UInt8} (h : c.toNat < 0x80) (X : Bytes) :
    dec .s0 (BS :: 117 :: 48 :: 48 :: (hex2 c.toNat ++ X)) = (dec .s0 X).map fun p => (c :: p.1, p.2) := by
  have e : 48 :: 48 :: (hex2 c.toNat ++ X) = hex4 c.toNat ++ X := by
    have e1 : c.toNat / 4096 % 16 = 0 := by omega
    have e2 : c.toNat / 256 % 16 = 0 := by omega
    rw [hex4, e1, e2]
    rfl
  rw [e, dec_u4 _ (by omega) (by omega), utf8enc_ascii h]
  rfl

theorem dec_jsonEscASCII {c : UInt8} (hc : c.toNat < 0x80) (X : Bytes) :
    dec .s0 (jsonEscASCII c ++ X) = (dec .s0 X).map fun p => (c :: p.1, p.2) := by
  -- the seven two-character escapes: the reader's table inverts the writer's, entry by entry
  have lit : ∀ b : UInt8, c.toNat = b.toNat →
      dec .s0 (jsonEscASCII b ++ X) = (dec .s0 X).map (fun p => (b :: p.1, p.2)) →
      dec .s0 (jsonEscASCII c ++ X) = (dec .s0 X).map fun p => (c :: p.1, p.2) :=
    fun b e hb => by rw [UInt8.toNat_inj.mp e]; exact hb
  by_cases h1 : c.toNat = 34 ∨ c.toNat = 92
  · rcases h1 with h | h
    · exact lit 34 h rfl
    · exact lit 92 h rfl
  by_cases h2 : c.toNat = 8
  · exact lit 8 h2 rfl
  by_cases h3 : c.toNat = 12
  · exact lit 12 h3 rfl
  by_cases h4 : c.toNat = 10
  · exact lit 10 h4 rfl
  by_cases h5 : c.toNat = 13
  · exact lit 13 h5 rfl
  by_cases h6 : c.toNat = 9
  · exact lit 9 h6 rfl
  rw [jsonEscASCII]
  simp only [if_neg h1, if_neg h2, if_neg h3, if_neg h4, if_neg h5, if_neg h6]
  by_cases h7 : c.toNat < 0x20 ∨ c.toNat = 60 ∨ c.toNat = 62 ∨ c.toNat = 38
  · rw [if_pos h7]
    exact dec_u00 hc X
  · rw [if_neg h7]
    refine dec_plain_cons ⟨?_, ?_, fun h => h7 (.inl h)⟩ X
    · intro e; exact h1 (.inl (by rw [e]; rfl))
    · intro e; exact h1 (.inr (by rw [e]; rfl))

/-- the next `k` bytes are continuation bytes -/
def ContPrefix : Nat → Bytes → Prop
  | 0, _ => True
  | _ + 1, [] => False
  | k + 1, c :: r => (0x80 ≤ c.toNat ∧ c.toNat ≤ 0xBF) ∧ ContPrefix k r

theorem div64 {n d : Nat} (h : d < 64) : (n * 64 + d) / 64 = n := by
  rw [Nat.mul_comm, Nat.mul_add_div (by decide), Nat.div_eq_of_lt h, Nat.add_zero]

theorem mod64 {n d : Nat} (h : d < 64) : (n * 64 + d) % 64 = d := by
  rw [Nat.mul_comm, Nat.mul_add_mod, Nat.mod_eq_of_lt h]

theorem div4096 (r : Nat) : r / 4096 = r / 64 / 64 := (Nat.div_div_eq_div_mul r 64 64).symm

theorem div262144 (r : Nat) : r / 262144 = r / 64 / 64 / 64 := by
  rw [Nat.div_div_eq_div_mul, Nat.div_div_eq_div_mul]

/-! `utf8enc` of a rune given by its base-64 digits, one lemma per width; the bound on the leading
digits is what keeps the encoding from being overlong. -/

theorem utf8enc_2 {a b : Nat} (ha : 2 ≤ a) (ha' : a < 32) (hb : b < 64) :
    utf8enc (a * 64 + b) = [UInt8.ofNat (0xC0 + a), UInt8.ofNat (0x80 + b)] := by
  rw [utf8enc, if_neg (by omega), if_pos (by omega), div64 hb, mod64 hb]

theorem utf8enc_3 {a b c : Nat} (hab : 32 ≤ a * 64 + b) (ha : a < 16) (hb : b < 64) (hc : c < 64) :
    utf8enc ((a * 64 + b) * 64 + c) =
      [UInt8.ofNat (0xE0 + a), UInt8.ofNat (0x80 + b), UInt8.ofNat (0x80 + c)] := by
  rw [utf8enc, if_neg (by omega), if_neg (by omega), if_pos (by omega), div4096, div64 hc, div64 hb,
    mod64 hb, mod64 hc]

theorem utf8enc_4 {a b c d : Nat} (hab : 16 ≤ a * 64 + b) (hb : b < 64) (hc : c < 64) (hd : d < 64) :
    utf8enc (((a * 64 + b) * 64 + c) * 64 + d) =
      [UInt8.ofNat (0xF0 + a), UInt8.ofNat (0x80 + b), UInt8.ofNat (0x80 + c), UInt8.ofNat (0x80 + d)] := by
  rw [utf8enc, if_neg (by omega), if_neg (by omega), if_neg (by omega), div262144, div4096, div64 hd,
    div64 hc, div64 hb, mod64 hb, mod64 hc, mod64 hd]

theorem ite_some_eq {α : Type} {p : Prop} [Decidable p] {a b : α}
    (h : (if p then some a else none) = some b) : p ∧ a = b := by
  by_cases hp : p
  · rw [if_pos hp] at h; exact ⟨hp, Option.some.inj h⟩
  · rw [if_neg hp] at h; cases h

theorem ofNat_add_sub {c : UInt8} {k : Nat} (h : k ≤ c.toNat) : UInt8.ofNat (k + (c.toNat - k)) = c := by
  rw [Nat.add_sub_of_le h, UInt8.ofNat_toNat]

theorem cont_digit {c : UInt8} (h : 0x80 ≤ c.toNat ∧ c.toNat ≤ 0xBF) : c.toNat - 0x80 < 64 := by omega

theorem decodeRune_multi {c : UInt8} {r : Bytes} {rune w : Nat} (hc : 0x80 ≤ c.toNat)
    (h : decodeRune (c :: r) = some (rune, w)) :
    ContPrefix (w - 1) r ∧ utf8enc rune = c :: r.take (w - 1) := by
  have hlt := c.toNat_lt
  change (if c.toNat < 0x80 then _ else _) = _ at h
  rw [if_neg (Nat.not_lt.mpr hc)] at h
  by_cases h2 : c.toNat < 0xC2
  · rw [if_pos h2] at h; cases h
  rw [if_neg h2] at h
  by_cases h3 : c.toNat < 0xE0
  · rw [if_pos h3] at h
    match r, h with
    | b1 :: _, h =>
      obtain ⟨hy, h⟩ := ite_some_eq h
      injection h with h1 h2
      subst h1 h2
      refine ⟨⟨hy, trivial⟩, ?_⟩
      rw [utf8enc_2 (by omega) (by omega) (cont_digit hy), ofNat_add_sub (by omega), ofNat_add_sub hy.1]
      rfl
  rw [if_neg h3] at h
  by_cases h4 : c.toNat < 0xF0
  · rw [if_pos h4] at h
    match r, h with
    | b1 :: b2 :: _, h =>
      obtain ⟨⟨hlo, hhi, hz⟩, h⟩ := ite_some_eq h
      injection h with h1 h2
      subst h1 h2
      -- the bounds on `b1` depend on `c`: they exclude overlong forms and surrogates
      have lo := @Lean.Omega.ite_disjunction _ (c.toNat = 0xE0) _ 0xA0 0x80
      have hi := @Lean.Omega.ite_disjunction _ (c.toNat = 0xED) _ 0x9F 0xBF
      have hy : 0x80 ≤ b1.toNat ∧ b1.toNat ≤ 0xBF := by omega
      refine ⟨⟨hy, hz, trivial⟩, ?_⟩
      rw [utf8enc_3 (by omega) (by omega) (cont_digit hy) (cont_digit hz), ofNat_add_sub (by omega),
        ofNat_add_sub hy.1, ofNat_add_sub hz.1]
      rfl
  rw [if_neg h4] at h
  by_cases h5 : c.toNat < 0xF5
  · rw [if_pos h5] at h
    match r, h with
    | b1 :: b2 :: b3 :: _, h =>
      obtain ⟨⟨hlo, hhi, hz, hz', hu⟩, h⟩ := ite_some_eq h
      injection h with h1 h2
      subst h1 h2
      have lo := @Lean.Omega.ite_disjunction _ (c.toNat = 0xF0) _ 0x90 0x80
      have hi := @Lean.Omega.ite_disjunction _ (c.toNat = 0xF4) _ 0x8F 0xBF
      have hy : 0x80 ≤ b1.toNat ∧ b1.toNat ≤ 0xBF := by omega
      refine ⟨⟨hy, ⟨hz, hz'⟩, hu, trivial⟩, ?_⟩
      rw [utf8enc_4 (by omega) (cont_digit hy) (cont_digit ⟨hz, hz'⟩) (cont_digit hu), ofNat_add_sub (by omega),
        ofNat_add_sub hy.1, ofNat_add_sub hz, ofNat_add_sub hu.1]
      rfl
  · rw [if_neg h5] at h; cases h

theorem decodeRune_ascii {c : UInt8} (h : c.toNat < 0x80) (r : Bytes) :
    decodeRune (c :: r) = some (c.toNat, 1) :=
  if_pos h

theorem sanitizeGo_take (k : Nat) (m : Bytes) : (sanitizeGo k m).take k = m.take k := by
  fun_induction sanitizeGo k m
  case case2 k c r ih => rw [List.take_succ_cons, List.take_succ_cons, ih]
  all_goals rfl

/-- **`encoding/json` string encoding reads back as the sanitised message** (along the writer's own
recursion; `k` = continuation bytes of the current rune still to be handled: copied if `cp`, else left
out because the rune was written as an escape). -/
theorem dec_jsonStr (m : Bytes) (cp : Bool) (k : Nat) (rest : Bytes) (hk : ContPrefix k m) :
    dec .s0 (jsonStrGo cp k m ++ QUOTE :: rest) =
      some (if cp then sanitizeGo k m else (sanitizeGo k m).drop k, rest) := by
  have drop0 (cp : Bool) (Y : Bytes) : (if cp then Y else Y.drop 0) = Y := by cases cp <;> rfl
  fun_induction jsonStrGo cp k m
  case case1 => simp only [sanitizeGo, List.drop_nil, ite_self]; rfl
  -- a continuation byte of a rune that is copied
  case case2 k c r ih => rw [List.cons_append, dec_plain_cons (plain_of_ge hk.1.1), ih hk.2]; rfl
  -- a continuation byte of a rune that was written as an escape
  case case3 cp k c r h ih => rw [ih hk.2, if_neg h, if_neg h]; rfl
  -- an ASCII byte
  case case4 cp c r h ih =>
    rw [drop0, List.append_assoc, dec_jsonEscASCII h, ih trivial]
    simp only [sanitizeGo, decodeRune_ascii h]; rfl
  -- an invalid byte
  case case5 cp c r h hd ih =>
    simp only [drop0, List.cons_append, sanitizeGo, hd]
    rw [dec_fffd, ih trivial]; rfl
  -- U+2028, U+2029: the escape reads back as the rune's bytes, which are then skipped
  case case6 cp c r h rune w hd hls ih =>
    obtain ⟨hcont, henc⟩ := decodeRune_multi (by omega) hd
    simp only [drop0, List.cons_append, List.append_assoc, sanitizeGo, hd]
    rw [dec_u4 rune (by omega) (by omega), ih hcont, henc]
    show some (c :: (r.take (w - 1) ++ (sanitizeGo (w - 1) r).drop (w - 1)), rest) = _
    rw [← sanitizeGo_take, List.take_append_drop]
  -- any other rune: its first byte is copied
  case case7 cp c r h rune w hd hls ih =>
    obtain ⟨hcont, _⟩ := decodeRune_multi (by omega) hd
    simp only [drop0, List.cons_append, sanitizeGo, hd]
    rw [dec_plain_cons (plain_of_ge (by omega)), ih hcont]; rfl

theorem dec_plain_quote (l rest : Bytes) (h : ∀ c ∈ l, Plain c) :
    dec .s0 (l ++ 34 :: rest) = some (l, rest) := by
  rw [dec_plain l _ h]
  show some (l ++ [], rest) = _
  rw [List.append_nil]

/-- the timestamp text contains no quote, backslash or control byte (true of every `time.Format`
layout made of digits and `-:.TZ+`) -/
def TsPlain (ts : Bytes) : Prop := ∀ c ∈ ts, Plain c

instance (ts : Bytes) : Decidable (TsPlain ts) := by unfold TsPlain; exact inferInstance

theorem levelStr_plain (l : Nat) : ∀ c ∈ levelStr l, Plain c := by
  by_cases h1 : l = 1
  · subst h1; decide
  by_cases h2 : l = 2
  · subst h2; decide
  by_cases h3 : l = 3
  · subst h3; decide
  by_cases h4 : l = 4
  · subst h4; decide
  rw [levelStr, if_neg h1, if_neg h2, if_neg h3, if_neg h4]
  intro c hc; cases hc

/-- A record whose message literal `"body"` reads back as `Y` parses to the three fields. -/
theorem parseLine_of_body (body Y ts : Bytes) (lvl : Nat) (hts : TsPlain ts)
    (hb : ∀ rest, dec .s0 (body ++ QUOTE :: rest) = some (Y, rest)) :
    parseLine (lineOf (QUOTE :: body ++ [QUOTE]) ts lvl) =
      some [(kTimestamp, ts), (kLevel, levelStr lvl), (kMessage, Y)] := by
  have shape : lineOf (QUOTE :: body ++ [QUOTE]) ts lvl =
      123 :: 34 :: (kTimestamp ++ 34 :: 58 :: 34 :: (ts ++ 34 :: 44 :: 34 ::
        (kLevel ++ 34 :: 58 :: 34 :: (levelStr lvl ++ 34 :: 44 :: 34 ::
          (kMessage ++ 34 :: 58 :: 34 :: (body ++ 34 :: 125 :: [10])))))) := by
    simp [lineOf, kOpen, kMid1, kMid2, kClose, kTimestamp, kLevel, kMessage, QUOTE]
  -- the length is the reader's fuel: three members need three units
  obtain ⟨f, hf⟩ : ∃ f, (lineOf (QUOTE :: body ++ [QUOTE]) ts lvl).length = f + 3 := ⟨_, rfl⟩
  have hb' : ∀ rest, dec .s0 (body ++ 34 :: rest) = some (Y, rest) := hb
  rw [shape] at hf ⊢
  -- every string literal reads back by `dec_plain_quote` or `hb`; the rest is evaluation of the reader
  simp +decide only [parseLine, hf, parseMembers, skipWs, reduceIte, hb', Option.map_some,
    fun rest => dec_plain_quote kTimestamp rest (by decide), fun rest => dec_plain_quote kLevel rest (by decide),
    fun rest => dec_plain_quote kMessage rest (by decide), fun rest => dec_plain_quote ts rest hts,
    fun rest => dec_plain_quote _ rest (levelStr_plain lvl)]

/-- **C37 at full strength**: for every timestamp text, level and message (any byte string), what is
written is exactly one line holding a JSON object whose `timestamp`, `level` and `message` fields decode
to the record's time text, level and sanitised message. -/
def LogLineJSON_full : Prop :=
  ∀ (ts : Bytes) (lvl : Nat) (m : Bytes), TsPlain ts →
    recordOK (lineOf (jsonString m) ts lvl) ts lvl m = true

theorem log_line_json : LogLineJSON_full := by
  intro ts lvl m hts
  rw [recordOK, jsonString, parseLine_of_body _ (sanitize m) ts lvl hts fun rest => dec_jsonStr m true 0 rest trivial]
  show (some ts == some ts && some (levelStr lvl) == some (levelStr lvl) &&
    some (sanitize m) == some (sanitize m)) = true
  simp only [beq_self_eq_true, Bool.and_self]

/-- a concrete timestamp text: `2024-02-29T12:00:00Z` -/
def tsSample : Bytes := [50,48,50,52,45,48,50,45,50,57,84,49,50,58,48,48,58,48,48,90]

/-! #### ties to the current source (facts regenerated by tools/xlate/c37) -/

/-- both destinations quote the message with `encoding/json` -/
theorem tie_stdout : MtxVerif.Gen.C37.stdoutQuoter = .jsonMarshal := rfl
theorem tie_file : MtxVerif.Gen.C37.fileQuoter = .jsonMarshal := rfl

theorem dec_nl (st : DSt) (r : Bytes) : dec st (10 :: r) = none := by
  cases st <;> rfl

theorem map_snd_some {γ α : Type} {o : Option (γ × Bytes)} {g : γ → α} {d : α} {rest : Bytes}
    (h : o.map (fun p => (g p.1, p.2)) = some (d, rest)) : ∃ d', o = some (d', rest) := by
  cases o with
  | none => cases h
  | some p => cases h; exact ⟨p.1, rfl⟩

theorem dec_step {st : DSt} {s d rest : Bytes} :
    dec st s = some (d, rest) → rest = s.tail ∨ ∃ st' d', dec st' s.tail = some (d', rest) := by
  fun_cases dec st s
  -- the closing quote
  case case2 => intro h; cases h; exact .inl rfl
  -- a byte, an escape or a `\u` group is complete: the reader goes on in `s0` and prefixes what it has read
  case case5 | case7 | case11 => exact fun h => (map_snd_some h).elim fun _ h' => .inr ⟨_, _, h'⟩
  -- the reader goes on in another state
  case case3 | case6 | case10 | case12 | case14 | case16 => exact fun h => .inr ⟨_, _, h⟩
  -- every other branch rejects
  all_goals exact nofun

def Eats (s rest : Bytes) : Prop := ∃ pre, s = pre ++ rest ∧ ∀ c ∈ pre, c ≠ 10

theorem Eats.refl (s : Bytes) : Eats s s := ⟨[], rfl, List.forall_mem_nil _⟩

theorem Eats.trans {a b c : Bytes} : Eats a b → Eats b c → Eats a c
  | ⟨p1, e1, n1⟩, ⟨p2, e2, n2⟩ =>
    ⟨p1 ++ p2, by rw [e1, e2, List.append_assoc], List.forall_mem_append.mpr ⟨n1, n2⟩⟩

theorem Eats.cons {c : UInt8} (hc : c ≠ 10) {s rest : Bytes} : Eats s rest → Eats (c :: s) rest
  | ⟨p, e, n⟩ => ⟨c :: p, congrArg (c :: ·) e, List.forall_mem_cons.mpr ⟨hc, n⟩⟩

theorem dec_eats : ∀ (s : Bytes) (st : DSt) (d rest : Bytes), dec st s = some (d, rest) → Eats s rest := by
  intro s
  induction s with
  | nil => intro st d rest h; cases st <;> cases h
  | cons c r ih =>
    intro st d rest h
    have hc : c ≠ 10 := by intro e; subst e; rw [dec_nl] at h; cases h
    rcases dec_step h with e | ⟨st', d', h'⟩
    · rw [e]; exact Eats.cons hc (Eats.refl _)
    · exact Eats.cons hc (ih st' d' rest h')

theorem skipWs_eats : ∀ s : Bytes, Eats s (skipWs s) := by
  intro s
  induction s with
  | nil => exact Eats.refl _
  | cons c r ih =>
    simp only [skipWs]
    split
    · rename_i h
      refine Eats.cons ?_ ih
      rcases h with h | h <;> (subst h; decide)
    · exact Eats.refl _

theorem eats_of_skipWs {s t : Bytes} {c : UInt8} (hc : c ≠ 10) (h : skipWs s = c :: t) : Eats s t := by
  have h1 := skipWs_eats s
  rw [h] at h1
  exact h1.trans (Eats.cons hc (Eats.refl t))

/-- one member `"key" : "value"`, up to the byte after the value's closing quote -/
theorem member_eats {r key r1 r2 r3 val r4 : Bytes} (hk : dec .s0 r = some (key, r1))
    (h2 : skipWs r1 = 58 :: r2) (h3 : skipWs r2 = 34 :: r3) (hv : dec .s0 r3 = some (val, r4)) :
    Eats (34 :: r) r4 :=
  Eats.cons (by decide) ((dec_eats _ _ _ _ hk).trans ((eats_of_skipWs (by decide) h2).trans
    ((eats_of_skipWs (by decide) h3).trans (dec_eats _ _ _ _ hv))))

theorem parseMembers_eats (f : Nat) (s : Bytes) (ms : List (Bytes × Bytes)) (rest : Bytes)
    (h : parseMembers f s = some (ms, rest)) : Eats s rest := by
  fun_induction parseMembers f s generalizing ms rest
  -- a member followed by a comma and more members
  case case4 hk _ h2 _ h3 _ _ hv r5 h5 ih =>
    obtain ⟨ms', hp⟩ := map_snd_some h
    exact (member_eats hk h2 h3 hv).trans ((eats_of_skipWs (by decide) h5).trans
      ((skipWs_eats r5).trans (ih _ _ hp)))
  -- the last member and the closing brace
  case case5 hk _ h2 _ h3 _ _ hv r5 h5 =>
    cases h
    exact (member_eats hk h2 h3 hv).trans (eats_of_skipWs (by decide) h5)
  -- every other branch rejects
  all_goals cases h

/-- **Spec adequacy: "exactly one line".** Whatever `parseLine` accepts ends in `\n` and contains no
other newline. -/
theorem parseLine_one_line (s : Bytes) (ms : List (Bytes × Bytes)) (h : parseLine s = some ms) :
    ∃ body, s = body ++ [10] ∧ ∀ c ∈ body, c ≠ 10 := by
  unfold parseLine at h
  split at h
  · rename_i r
    split at h
    · rename_i ms' hp
      exact Eats.cons (by decide) ((skipWs_eats r).trans (parseMembers_eats _ _ _ _ hp))
    · cases h
  · cases h

example : TsPlain tsSample := by decide +kernel
-- invalid bytes become U+FFFD one by one; valid multi-byte runes are kept
example : sanitize [0x61, 0xFF, 0xC3, 0xA9, 0xE2, 0x82] = [0x61, 0xEF,0xBF,0xBD, 0xC3,0xA9, 0xEF,0xBF,0xBD, 0xEF,0xBF,0xBD] := by decide +kernel
-- json.Marshal("a\"\n<\x01\xff") = "a\"\n\u003c\u0001\ufffd"
example : jsonString [0x61, 0x22, 0x0A, 0x3C, 0x01, 0xFF] =
    [34, 0x61, 92,34, 92,110, 92,117,48,48,51,99, 92,117,48,48,48,49, 92,117,102,102,102,100, 34] := by decide +kernel
-- regressions: what `strconv.Quote` wrote for BEL, \x01 and the invalid byte \xff is rejected by the reader
example : parseLine (lineOf [34, 92, 97, 34] tsSample 2) = none := by decide +kernel
example : parseLine (lineOf [34, 92, 120, 48, 49, 34] tsSample 2) = none := by decide +kernel
example : parseLine (lineOf [34, 92, 120, 102, 102, 34] tsSample 2) = none := by decide +kernel
example : recordOK (lineOf (jsonString [7, 1, 255]) tsSample 2) tsSample 2 [7, 1, 255] = true := by decide +kernel
-- \u0085 (valid JSON) reads back as C2 85; a surrogate pair escape is understood by the reader
example : dec .s0 [92,117,48,48,56,53, 34] = some ([0xC2, 0x85], []) := by decide +kernel
example : dec .s0 [92,117,100,56,51,100, 92,117,100,101,48,48, 34] = some ([0xF0,0x9F,0x98,0x80], []) := by decide +kernel

end MtxVerif.C37
