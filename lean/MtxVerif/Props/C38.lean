/-
C38 — the configuration watcher never loses the final file content.  Property theorems on the
timed-event automaton of `ConfWatcher.run`.
-/
import MtxVerif.Model.C38

namespace MtxVerif.C38

theorem tooEarly_lt {s : St} {now : Nat} (h : tooEarly s now = true) :
    ∃ l, s.lastCalled = some l ∧ now < l + minInterval := by
  unfold tooEarly at h
  cases hl : s.lastCalled with
  | none => simp [hl] at h
  | some l =>
    simp only [hl, decide_eq_true_eq] at h
    exact ⟨l, rfl, by omega⟩

/-- for an existing file, with `prev` equal to what the path resolved to before the event, the
loop's condition is exactly "this event reports a change" -/
theorem relevant_eq_isChange (p : Nat) (e : Ev) (h : e.cur ≠ 0) : relevant p e = isChange p e := by
  have h1 : (e.cur != 0) = true := by simp [h]
  simp only [relevant, isChange, h1, Bool.true_and]
  rw [Bool.or_comm]

theorem notify_signals (s : St) (now : Nat) : (notify s now).signals = (now + additionalWait) :: s.signals := rfl

theorem allReported_iff (ch sg : List Nat) :
    allReported ch sg = true ↔ ∀ c ∈ ch, ∃ g ∈ sg, c ≤ g := by
  simp [allReported, List.all_eq_true, List.any_eq_true]

theorem not_relevant {p : Nat} {e : Ev} (h0 : e.cur ≠ 0) (hr : ¬ relevant p e = true) :
    e.cur = p ∧ isChange p e = false := by
  rw [← relevant_eq_isChange p e h0]
  refine ⟨?_, Bool.eq_false_iff.mpr hr⟩
  simp only [relevant, Bool.or_eq_true, bne_iff_ne, ne_eq, not_or] at hr
  exact Decidable.not_not.mp hr.1

theorem changes_le {ch : List Nat} {tl t : Nat} {b : Bool} (h : ∀ c ∈ ch, c ≤ tl) (ht : tl ≤ t) :
    ∀ c ∈ (if b then ch ++ [t] else ch), c ≤ t := by
  intro c hc
  split at hc
  · rcases List.mem_append.mp hc with hc | hc
    · exact Nat.le_trans (h c hc) ht
    · exact Nat.le_of_eq (List.mem_singleton.mp hc)
  · exact Nat.le_trans (h c hc) ht

theorem notify_covers {s : St} {now t : Nat} {ch : List Nat} (hch : ∀ c ∈ ch, c ≤ t) (ht : t ≤ now) :
    ∀ c ∈ ch, ∃ g ∈ (notify s now).signals, c ≤ g :=
  fun c hc => ⟨now + additionalWait, List.mem_cons_self, by have := hch c hc; omega⟩

theorem changeTimes_cons (ch : List Nat) (c : Nat) (e : Ev) (es : List Ev) :
    ch ++ changeTimes c (e :: es) = (if isChange c e then ch ++ [e.t] else ch) ++ changeTimes e.cur es := by
  show ch ++ (if isChange c e then e.t :: changeTimes e.cur es else changeTimes e.cur es) = _
  split <;> simp

/-- Invariant: `tl` = time of the latest delivered event, `ch` = times of the changes so far. -/
structure J (s : St) (tl : Nat) (ch : List Nat) : Prop where
  /-- `previousWatchedPath` always is what the path resolved to at the latest event -/
  prevEq : s.prev = s.lastCur
  chLe : ∀ c ∈ ch, c ≤ tl
  /-- an armed timer has not yet expired -/
  pendGt : ∀ d, s.pending = some d → tl < d
  /-- every change so far has been followed by a signal, or the timer is armed, or the file is gone -/
  cov : s.lastCur = 0 ∨ s.pending.isSome = true ∨ ∀ c ∈ ch, ∃ g ∈ s.signals, c ≤ g

theorem J_init (c0 : Nat) : J (initSt c0) 0 [] :=
  ⟨rfl, by simp, by simp [initSt], Or.inr (Or.inr (by simp))⟩

theorem J_fire {s : St} {tl : Nat} {ch : List Nat} {d : Nat} (h : J s tl ch) (hd : s.pending = some d) :
    J (fire s d) tl ch ∧ (fire s d).lastCur = s.lastCur ∧ (fire s d).pending = none := by
  have htd := h.pendGt d hd
  unfold fire
  split
  · rename_i h0
    exact ⟨⟨h0.symm, h.chLe, nofun, .inl h0⟩, rfl, rfl⟩
  · exact ⟨⟨rfl, h.chLe, nofun,
      .inr (.inr (notify_covers h.chLe (Nat.le_trans (Nat.le_of_lt htd) (Nat.le_max_left ..))))⟩, rfl, rfl⟩

/-- the timer arm: afterwards no armed timer is due at `t` -/
theorem J_preFire {s : St} {tl : Nat} {ch : List Nat} (t : Nat) (h : J s tl ch) :
    J (preFire s t) tl ch ∧ (preFire s t).lastCur = s.lastCur ∧ ∀ d, (preFire s t).pending = some d → t < d := by
  unfold preFire
  split
  · rename_i d hp
    split
    · obtain ⟨h1, h2, h3⟩ := J_fire h hp
      exact ⟨h1, h2, fun d' hd' => by rw [h3] at hd'; cases hd'⟩
    · exact ⟨h, rfl, fun d' hd' => by rw [hp] at hd'; cases hd'; omega⟩
  · rename_i hp
    exact ⟨h, rfl, fun d hd => by rw [hp] at hd; cases hd⟩

/-- the event arm -/
theorem J_handleFix {s : St} {tl : Nat} {ch : List Nat} (e : Ev) (h : J s tl ch) (ht : tl ≤ e.t)
    (hp : ∀ d, s.pending = some d → e.t < d) :
    J (handleFix s e) e.t (if isChange s.lastCur e then ch ++ [e.t] else ch) ∧
    (handleFix s e).lastCur = e.cur := by
  have hch' := changes_le (b := isChange s.lastCur e) h.chLe ht
  unfold handleFix
  dsimp only
  by_cases h0 : e.cur = 0
  · rw [if_pos h0]
    exact ⟨⟨rfl, hch', hp, .inl rfl⟩, h0.symm⟩
  · rw [if_neg h0]
    by_cases hr : relevant s.prev e = true
    · rw [if_pos hr]
      by_cases he : tooEarly s (max e.t s.free) = true
      · -- inside the quiet interval: the timer is armed (or stays armed) for its end
        rw [if_pos he]
        obtain ⟨l, hl, hlt⟩ := tooEarly_lt he
        refine ⟨⟨rfl, hch', fun d hd => ?_, .inr (.inl ?_)⟩, rfl⟩ <;> dsimp only at * <;> cases hpd : s.pending
        · rw [hpd, hl] at hd
          cases hd
          exact Nat.lt_of_le_of_lt (Nat.le_max_left ..) hlt
        · rw [hpd] at hd
          cases hd
          exact hp _ hpd
        · rw [hl]; rfl
        · rfl
      · rw [if_neg he]
        exact ⟨⟨rfl, hch', nofun, .inr (.inr (notify_covers hch' (Nat.le_max_left ..)))⟩, rfl⟩
    · -- not relevant: the path still resolves to `prev`, and the event is no change
      rw [if_neg hr]
      obtain ⟨hprev, hnc⟩ := not_relevant h0 hr
      rw [h.prevEq] at hnc
      rw [hnc] at hch' ⊢
      exact ⟨⟨hprev.symm, hch', hp, h.cov.elim (fun hc => absurd (by rw [hprev, h.prevEq, hc]) h0) .inr⟩, rfl⟩

theorem J_stepFix {s : St} {tl : Nat} {ch : List Nat} (e : Ev) (h : J s tl ch) (ht : tl ≤ e.t) :
    J (stepFix s e) e.t (if isChange s.lastCur e then ch ++ [e.t] else ch) ∧ (stepFix s e).lastCur = e.cur := by
  obtain ⟨h1, h2, h3⟩ := J_preFire e.t h
  rw [← h2]
  exact J_handleFix e h1 ht h3

theorem J_fold : ∀ (evs : List Ev) (s : St) (tl : Nat) (ch : List Nat), J s tl ch → sortedFrom tl evs = true →
    ∃ tl', J (evs.foldl stepFix s) tl' (ch ++ changeTimes s.lastCur evs) ∧
      (evs.foldl stepFix s).lastCur = finalCur s.lastCur evs
  | [], s, tl, ch, h, _ => ⟨tl, by rwa [changeTimes, List.append_nil], rfl⟩
  | e :: es, s, tl, ch, h, hs => by
    rw [sortedFrom, Bool.and_eq_true, decide_eq_true_eq] at hs
    obtain ⟨h1, h2⟩ := J_stepFix e h hs.1
    have ih := J_fold es (stepFix s e) e.t _ h1 hs.2
    rw [h2] at ih
    rwa [changeTimes_cons]

/-- **The property at full strength, for the loop with the trailing-edge timer.**  For every initial
state of the path and every time-ordered history of delivered events — any timing of writes, deletions,
re-creations, renames and symlink swaps — if the file exists at the end, every change is followed by a
signal: the consumer's last load happens after the last change. -/
theorem fix_reports_every_change (c0 : Nat) (evs : List Ev) (hs : sortedFrom 0 evs = true)
    (hfin : finalCur c0 evs ≠ 0) :
    allReported (changeTimes c0 evs) (runFix (initSt c0) evs).signals = true := by
  obtain ⟨tl, hJ, hcur⟩ := J_fold evs (initSt c0) 0 [] (J_init c0) hs
  rw [List.nil_append] at hJ
  rw [allReported_iff]
  -- after the last event a pending timer fires; then nothing is pending and the file exists
  have hfin' : J (runFix (initSt c0) evs) tl (changeTimes c0 evs) ∧
      (runFix (initSt c0) evs).lastCur = finalCur c0 evs ∧ (runFix (initSt c0) evs).pending = none := by
    unfold runFix finish
    split
    · rename_i d hp
      obtain ⟨h1, h2, h3⟩ := J_fire hJ hp
      exact ⟨h1, h2.trans hcur, h3⟩
    · rename_i hp
      exact ⟨hJ, hcur, hp⟩
  rcases hfin'.1.cov with h | h | h
  · exact absurd (hfin'.2.1 ▸ h) hfin
  · rw [hfin'.2.2] at h; cases h
  · exact h

/-! ### Watcher errors (overflow of the kernel queue) -/

/-- any watcher error closes the signal channel for good: the consumer is woken -/
theorem closed_fold (l : List Inp) : ∀ x : StX, (l.foldl stepX x).closed.isSome = (x.closed.isSome || hasErr l) := by
  induction l with
  | nil => intro x; simp [hasErr]
  | cons i r ih =>
    intro x
    rw [List.foldl_cons, ih]
    cases i <;> cases h : x.closed.isSome <;> simp [stepX, hasErr, h]

/-- without errors the loop is the one of `stepFix` -/
theorem noerr_runX (l : List Inp) : ∀ s : St, hasErr l = false →
    l.foldl stepX { s := s } = { s := (evsOf l).foldl stepFix s } := by
  induction l with
  | nil => intro s _; rfl
  | cons i r ih =>
    intro s h
    cases i with
    | ev e => exact ih _ h
    | err t => cases h

/-- **With watcher errors in the alphabet:** for every time-ordered history of delivered events and
errors, either the signal channel has been closed (the consumer is woken for good and loads the file),
or every change has been followed by a signal. -/
theorem fix_reports_or_wakes (c0 : Nat) (l : List Inp) (hs : sortedFrom 0 (evsOf l) = true)
    (hfin : finalCur c0 (evsOf l) ≠ 0) :
    (runX c0 l).closed.isSome = true ∨
    allReported (changeTimes c0 (evsOf l)) (finish (runX c0 l).s).signals = true := by
  cases he : hasErr l with
  | true => exact Or.inl (by rw [runX, closed_fold, he, Bool.or_true])
  | false =>
    right
    unfold runX
    rw [noerr_runX l (initSt c0) he]
    exact fix_reports_every_change c0 (evsOf l) hs hfin

/-- The property as stated, for the loop as found. -/
def cur_full : Prop :=
  ∀ (c0 : Nat) (evs : List Ev), sortedFrom 0 evs = true → finalCur c0 evs ≠ 0 →
    allReported (changeTimes c0 evs) (runCur (initSt c0) evs).signals = true

/-- witness: writes at 0 ms and 500 ms — the second one is discarded and never reported -/
theorem cur_witness : ¬ cur_full := by
  intro h
  have := h 1 [⟨0, 1, true, true⟩, ⟨500, 1, true, true⟩] (by decide) (by decide)
  revert this
  decide

/-! On histories whose events are more than `minInterval + additionalWait` apart the loop as found never
discards an event, and the loop with the timer never arms it: the two loops coincide. -/

/-- earliest delivery time of the event after one delivered at `p` -/
def nextFrom : Option Nat → Nat
  | none => 0
  | some t => t + minInterval + additionalWait

structure AtRest (s : St) (t : Nat) : Prop where
  noTimer : s.pending = none
  free : s.free ≤ t
  quiet : ∀ l, s.lastCalled = some l → l + minInterval ≤ t

theorem stepCur_eq_stepFix {s : St} {t : Nat} {e : Ev} (h : AtRest s t) (ht : t ≤ e.t) :
    stepCur s e = stepFix s e ∧ AtRest (stepFix s e) (e.t + minInterval + additionalWait) := by
  obtain ⟨lc, prev, free, pending, lastCur, signals⟩ := s
  obtain ⟨hp, hf, hq⟩ := h
  dsimp only at hp hf hq
  subst hp
  have hnow : max e.t free = e.t := Nat.max_eq_left (by omega)
  have hne : tooEarly ⟨lc, prev, free, none, lastCur, signals⟩ e.t = false := by
    unfold tooEarly
    cases lc with
    | none => rfl
    | some l => have := hq l rfl; exact decide_eq_false (by omega)
  have hf' : free ≤ e.t + minInterval + additionalWait := by omega
  have hq' : ∀ l, lc = some l → l + minInterval ≤ e.t + minInterval + additionalWait :=
    fun l hl => by have := hq l hl; omega
  simp only [stepFix, stepCur, handleFix, preFire, hnow, hne, Bool.false_eq_true, if_false]
  split
  · exact ⟨trivial, rfl, hf', hq'⟩
  · split
    · refine ⟨trivial, rfl, ?_, fun l hl => ?_⟩
      · show e.t + additionalWait ≤ _; omega
      · cases hl; show e.t + additionalWait + minInterval ≤ _; omega
    · exact ⟨trivial, rfl, hf', hq'⟩

theorem spacedFrom_cons {p : Option Nat} {e : Ev} {es : List Ev} (h : spacedFrom p (e :: es) = true) :
    nextFrom p ≤ e.t ∧ spacedFrom (some e.t) es = true := by
  cases p with
  | none => exact ⟨Nat.zero_le _, h⟩
  | some t => rwa [spacedFrom, Bool.and_eq_true, decide_eq_true_eq] at h

theorem runCur_eq_of_spaced : ∀ (evs : List Ev) (s : St) (p : Option Nat), AtRest s (nextFrom p) →
    spacedFrom p evs = true → evs.foldl stepCur s = evs.foldl stepFix s ∧ (evs.foldl stepFix s).pending = none
  | [], _, _, h, _ => ⟨rfl, h.noTimer⟩
  | e :: es, s, p, h, hs => by
    obtain ⟨ht, hs'⟩ := spacedFrom_cons hs
    obtain ⟨heq, hr⟩ := stepCur_eq_stepFix h ht
    rw [List.foldl_cons, List.foldl_cons, heq]
    exact runCur_eq_of_spaced es _ (some e.t) hr hs'

theorem sorted_of_spaced : ∀ (evs : List Ev) (p : Option Nat) (t : Nat), t ≤ nextFrom p → spacedFrom p evs = true →
    sortedFrom t evs = true
  | [], _, _, _, _ => rfl
  | e :: es, p, t, ht, hs => by
    obtain ⟨hp, hs'⟩ := spacedFrom_cons hs
    rw [sortedFrom, Bool.and_eq_true, decide_eq_true_eq]
    exact ⟨Nat.le_trans ht hp,
      sorted_of_spaced es (some e.t) e.t (show e.t ≤ e.t + minInterval + additionalWait by omega) hs'⟩

/-- The loop as found reports every change when consecutive events are more than
`minInterval + additionalWait` (1010 ms) apart — exactly the regime `TestWriteMultipleTimes`-style
tests exercise. -/
theorem cur_partial (c0 : Nat) (evs : List Ev) (hs : spacedFrom none evs = true) (hfin : finalCur c0 evs ≠ 0) :
    allReported (changeTimes c0 evs) (runCur (initSt c0) evs).signals = true := by
  obtain ⟨heq, hp⟩ := runCur_eq_of_spaced evs (initSt c0) none ⟨rfl, Nat.le_refl 0, nofun⟩ hs
  have h := fix_reports_every_change c0 evs (sorted_of_spaced evs none 0 (Nat.le_refl 0) hs) hfin
  unfold runFix finish at h
  rw [hp] at h
  unfold runCur
  rwa [heq]

/-- A discarded path switch (symlink swap inside the window) is recovered by the next event that is
handled, because `previousWatchedPath` is stale — a discarded *write* is not. -/
theorem cur_recovers_switch :
    allReported (changeTimes 1 [⟨0, 1, true, true⟩, ⟨500, 2, false, true⟩, ⟨1600, 2, false, false⟩])
      (runCur (initSt 1) [⟨0, 1, true, true⟩, ⟨500, 2, false, true⟩, ⟨1600, 2, false, false⟩]).signals = true ∧
    allReported (changeTimes 1 [⟨0, 1, true, true⟩, ⟨500, 1, true, true⟩, ⟨1600, 1, false, false⟩])
      (runCur (initSt 1) [⟨0, 1, true, true⟩, ⟨500, 1, true, true⟩, ⟨1600, 1, false, false⟩]).signals = false := by
  decide

/-- the fixed loop on the witness history: signals at 10 ms and at 1020 ms -/
example : (runFix (initSt 1) [⟨0, 1, true, true⟩, ⟨500, 1, true, true⟩]).signals = [1020, 10] := by decide

/-- delete, then re-create inside the window: reported by the timer -/
example : (runFix (initSt 1) [⟨0, 1, true, true⟩, ⟨300, 0, false, false⟩, ⟨600, 1, true, true⟩]).signals = [1020, 10] ∧
    sortedFrom 0 [⟨0, 1, true, true⟩, ⟨300, 0, false, false⟩, ⟨600, 1, true, true⟩] = true ∧
    finalCur 1 [⟨0, 1, true, true⟩, ⟨300, 0, false, false⟩, ⟨600, 1, true, true⟩] ≠ 0 := by decide

example : spacedFrom none [⟨0, 1, true, true⟩, ⟨1010, 1, true, true⟩, ⟨2500, 0, false, false⟩, ⟨4000, 1, true, true⟩] = true := by
  decide

end MtxVerif.C38
