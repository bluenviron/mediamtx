/-
C02 — HTTP and JWT authentication admit only what the authority grants; token precedence.
Property theorems.  They hold for every oracle (regexp, url.ParseQuery, the auth server as a function
of the POSTed body, golang-jwt verdicts per key set, JSON decoding results of the permission claim).
-/
import MtxVerif.Model.C02
import MtxVerif.Props.C01

namespace MtxVerif.C02

open MtxVerif.C01 (Perm Oracle Outcome matchesPermission Grants matchesPermission_iff
  matchesPermission_eq_any aPlayback aAPI aMetrics aPprof)

/-- "its action/path is excluded" -/
def Excluded (env : Env) (cfg : Cfg) (r : Req) : Prop := Grants env.o cfg.excl r.action r.path

theorem excluded_iff (env : Env) (cfg : Cfg) (r : Req) :
    matchesPermission env.o cfg.excl r.action r.path = true ↔ Excluded env cfg r :=
  matchesPermission_iff _ _ _ _

/-- `getToken` with "exactly one value" as a length test, the form the spec uses -/
theorem getToken_eq (q : Bool) (pq : Option QueryVals) (r : Req) :
    getToken q pq r =
      if r.token ≠ [] then r.token
      else if r.pass ≠ [] then r.pass
      else if queryAllowed q r then
        match pq with
        | some v =>
          if v.token.length == 1 then v.token.headD []
          else if v.jwt.length == 1 then v.jwt.headD []
          else []
        | none => []
      else [] := by
  unfold getToken
  cases pq with
  | none => rfl
  | some v =>
    -- the pattern `[t]` and the length test agree on lists of length 0, 1 and more
    obtain ⟨tok, jwt⟩ := v
    rcases tok with _ | ⟨a, _ | _⟩ <;> rcases jwt with _ | ⟨b, _ | _⟩ <;> rfl

/-- 1. the token field wins -/
theorem token_field_first (q : Bool) (pq : Option QueryVals) (r : Req) (h : r.token ≠ []) :
    getToken q pq r = r.token :=
  if_pos h

/-- 2. else the password -/
theorem token_pass_second (q : Bool) (pq : Option QueryVals) (r : Req) (h1 : r.token = [])
    (h2 : r.pass ≠ []) : getToken q pq r = r.pass :=
  (if_neg (not_not_intro h1)).trans (if_pos h2)

/-- 3. else, where the query may be consulted, the single `token` parameter -/
theorem token_query_token (q : Bool) (v : QueryVals) (r : Req) (t : Bytes) (h1 : r.token = [])
    (h2 : r.pass = []) (ha : queryAllowed q r = true) (ht : v.token = [t]) :
    getToken q (some v) r = t := by
  simp [getToken, h1, h2, ha, ht]

/-- 4. else the single legacy `jwt` parameter -/
theorem token_query_jwt (q : Bool) (v : QueryVals) (r : Req) (t : Bytes) (h1 : r.token = [])
    (h2 : r.pass = []) (ha : queryAllowed q r = true) (ht : v.token.length ≠ 1) (hj : v.jwt = [t]) :
    getToken q (some v) r = t := by
  simp [getToken_eq, h1, h2, ha, ht, hj]

/-- 5. otherwise there is no token -/
theorem token_none (q : Bool) (pq : Option QueryVals) (r : Req) (h1 : r.token = []) (h2 : r.pass = [])
    (h : queryAllowed q r = false ∨ pq = none ∨
      ∃ v, pq = some v ∧ v.token.length ≠ 1 ∧ v.jwt.length ≠ 1) :
    getToken q pq r = [] := by
  rw [getToken_eq]
  rcases h with h | rfl | ⟨v, rfl, ht, hj⟩
  · simp [h1, h2, h]
  · simp [h1, h2]
  · simp [h1, h2, ht, hj]

/-- where the query may be consulted: "RTSP/RTMP, or HTTP protocols when allowed" -/
theorem queryAllowed_iff (q : Bool) (r : Req) :
    queryAllowed q r = true ↔
      (r.proto = pRTSP ∨ r.proto = pRTMP ∨
        (q = true ∧ (r.proto = pHLS ∨ r.proto = pWebRTC ∨ r.action = aPlayback ∨ r.action = aAPI ∨
          r.action = aMetrics ∨ r.action = aPprof))) := by
  simp only [queryAllowed, isHTTP, Bool.or_eq_true, Bool.and_eq_true, beq_iff_eq, or_assoc]

/-- "when allowed" only exists for the jwt method: under the http method an HTTP-protocol request
never gets a token from its query (mirrored behaviour of `Authenticate`). -/
theorem http_method_query_only_rtsp_rtmp (cfg : Cfg) (env : Env) (r : Req) (hm : cfg.method = .http)
    (h1 : r.token = []) (h2 : r.pass = []) (hp : r.proto ≠ pRTSP ∧ r.proto ≠ pRTMP) :
    tokenOf cfg env r = [] :=
  token_none _ _ _ h1 h2 (Or.inl (by simp [queryAllowed, hm, hp.1, hp.2]))

/-- the statement-style token rule used by the driver's spec is `getToken` -/
theorem tokenOf_eq_spec (cfg : Cfg) (env : Env) (r : Req) : tokenOf cfg env r = specToken cfg env r := by
  unfold tokenOf specToken
  rw [getToken_eq, queryAllowed, Bool.and_assoc]
  simp only [ne_eq, ← List.isEmpty_iff, Bool.not_eq_true, Bool.not_eq_true']
  cases r.proto == pRTSP || r.proto == pRTMP || cfg.method == Method.jwt && (cfg.inQuery && isHTTP r) <;>
    cases env.pq <;> rfl

theorem mkOut_ok_iff (x : Option Bytes) (a : Bool) (u : Bytes) : mkOut x a = .ok u ↔ x = some u := by
  cases x <;> simp [mkOut]

theorem mkOut_err_iff (x : Option Bytes) (a b : Bool) : mkOut x a = .err b ↔ (x = none ∧ a = b) := by
  cases x <;> simp [mkOut]

theorem out_cases (cfg : Cfg) (env : Env) (st : St) (r : Req) :
    (∃ u, (authenticate cfg env st r).2.out = .ok u) ∨
      (authenticate cfg env st r).2.out = .err (askOf r (tokenOf cfg env r)) := by
  have (x : Option Bytes) (a : Bool) : (∃ u, mkOut x a = .ok u) ∨ mkOut x a = .err a := by
    cases x
    · exact Or.inr rfl
    · exact Or.inl ⟨_, rfl⟩
  unfold authenticate
  cases cfg.method <;> exact this _ _

/-- rejected requests ask for credentials iff asking is allowed and no user, password or token (by
precedence, including the query) was supplied — both methods -/
theorem ask_iff (cfg : Cfg) (env : Env) (st : St) (r : Req) :
    (authenticate cfg env st r).2.out = .err true ↔
      ((¬ ∃ u, (authenticate cfg env st r).2.out = .ok u) ∧ r.enableAsk = true ∧ r.user = [] ∧
        r.pass = [] ∧ tokenOf cfg env r = []) := by
  rcases out_cases cfg env st r with ⟨u, h⟩ | h
  · simp [h]
  · simp [h, askOf, and_assoc]

/-- "admitted" from "admitted as `u`": an excluded request is admitted under one fixed name -/
theorem exists_ok_iff {A : Prop} {a : Bytes} {P : Bytes → Prop} :
    (∃ u, (A ∧ u = a) ∨ (¬ A ∧ P u)) ↔ (A ∨ ∃ u, P u) := by
  by_cases hA : A <;> simp [hA]

def Is2xx (rep : Reply) : Prop := ∃ c, rep = .status c ∧ 200 ≤ c ∧ c ≤ 299

theorem is2xx_iff (rep : Reply) : is2xx rep = true ↔ Is2xx rep := by
  cases rep <;> simp [is2xx, Is2xx]

theorem authenticateHTTP_eq (o : Oracle) (excl : List Perm) (auth : Post → Reply) (r : Req) (t : Bytes) :
    authenticateHTTP o excl auth r t =
      if matchesPermission o excl r.action r.path then (some [], none)
      else (if is2xx (auth (postOf r t)) then some r.user else none, some (postOf r t)) := by
  unfold authenticateHTTP
  cases matchesPermission o excl r.action r.path
  · simp only [Bool.false_eq_true, if_false]
    cases auth (postOf r t) with
    | fail => rfl
    | status c =>
      -- the code tests "not 2xx", the spec "2xx"
      have : (c < 200 ∨ c > 299) ↔ ¬ (200 ≤ c ∧ c ≤ 299) := by
        rw [Decidable.not_and_iff_not_or_not, Nat.not_le, Nat.not_le]
      simp only [this, ite_not, is2xx, decide_eq_true_eq]
      split <;> rfl
  · rfl

theorem http_core (cfg : Cfg) (env : Env) (st : St) (r : Req) (hm : cfg.method = .http) (u : Bytes) :
    (authenticate cfg env st r).2.out = .ok u ↔
      ((Excluded env cfg r ∧ u = []) ∨
       (¬ Excluded env cfg r ∧ Is2xx (env.authority (postOf r (tokenOf cfg env r))) ∧ u = r.user)) := by
  simp only [authenticate, hm, authenticateHTTP_eq, ← excluded_iff, ← is2xx_iff, mkOut_ok_iff]
  cases matchesPermission env.o cfg.excl r.action r.path <;>
    cases is2xx (env.authority (postOf r (tokenOf cfg env r))) <;> simp [eq_comm]

/-- **C02 (http)**: admitted iff excluded, or the auth server answers 2xx to the POST carrying the
request's user, password, token (by precedence), IP, action, path, protocol and query. -/
theorem http_iff (cfg : Cfg) (env : Env) (st : St) (r : Req) (hm : cfg.method = .http) :
    (∃ u, (authenticate cfg env st r).2.out = .ok u) ↔
      (Excluded env cfg r ∨ Is2xx (env.authority (postOf r (tokenOf cfg env r)))) := by
  simp only [http_core cfg env st r hm, exists_ok_iff, exists_and_left, exists_eq, and_true]

/-- the POST that is made carries exactly the request's fields; none is made for excluded requests -/
theorem http_post (cfg : Cfg) (env : Env) (st : St) (r : Req) (hm : cfg.method = .http) :
    (Excluded env cfg r → (authenticate cfg env st r).2.post = none) ∧
    (¬ Excluded env cfg r →
      (authenticate cfg env st r).2.post = some (postOf r (tokenOf cfg env r))) := by
  simp only [authenticate, hm, authenticateHTTP_eq, ← excluded_iff]
  cases matchesPermission env.o cfg.excl r.action r.path <;> simp

/-- field by field -/
theorem postOf_fields (r : Req) (t : Bytes) :
    (postOf r t).ip = r.ipStr ∧ (postOf r t).user = r.user ∧ (postOf r t).password = r.pass ∧
    (postOf r t).token = t ∧ (postOf r t).action = r.action ∧ (postOf r t).path = r.path ∧
    (postOf r t).protocol = r.proto ∧ (postOf r t).query = r.query ∧ (postOf r t).id = r.id ∧
    (postOf r t).userAgent = r.userAgent :=
  ⟨rfl, rfl, rfl, rfl, rfl, rfl, rfl, rfl, rfl, rfl⟩

/-- reported user: the supplied one, or none for excluded requests -/
theorem http_user (cfg : Cfg) (env : Env) (st : St) (r : Req) (u : Bytes) (hm : cfg.method = .http)
    (h : (authenticate cfg env st r).2.out = .ok u) :
    (Excluded env cfg r ∧ u = []) ∨ (¬ Excluded env cfg r ∧ u = r.user) :=
  ((http_core cfg env st r hm u).mp h).imp_right fun h => ⟨h.1, h.2.2⟩

/-- the JWKS state is not touched by the http method -/
theorem http_state (cfg : Cfg) (env : Env) (st : St) (r : Req) (hm : cfg.method = .http) :
    (authenticate cfg env st r).1 = st := by
  simp only [authenticate, hm]

/-- "the token verifies against the JWKS keys, satisfies issuer/audience and expiry (oracle verdict
for key set `k`), and its permission claim grants the action on the path" -/
def JwtGrants (env : Env) (k : Nat) (r : Req) (t : Bytes) (sub : Bytes) : Prop :=
  t ≠ [] ∧ (env.tok t).verdict k = some sub ∧
    ∃ perms, decodeClaim (env.tok t).claim = some perms ∧ Grants env.o perms r.action r.path

theorem jwtDecide_eq_some (o : Oracle) (tok : Bytes → TokInfo) (k : Nat) (r : Req) (t sub : Bytes) :
    jwtDecide o tok k r t = some sub ↔
      t ≠ [] ∧ (tok t).verdict k = some sub ∧
        ∃ perms, decodeClaim (tok t).claim = some perms ∧ matchesPermission o perms r.action r.path = true := by
  unfold jwtDecide
  by_cases ht : t = []
  · simp [ht]
  · cases (tok t).verdict k <;> cases decodeClaim (tok t).claim <;> simp [ht, and_comm]

theorem jwtDecide_iff (env : Env) (k : Nat) (r : Req) (t sub : Bytes) :
    jwtDecide env.o env.tok k r t = some sub ↔ JwtGrants env k r t sub := by
  simp only [jwtDecide_eq_some, JwtGrants, matchesPermission_iff]

theorem jwt_core (cfg : Cfg) (env : Env) (st : St) (r : Req) (hm : cfg.method = .jwt) (u : Bytes) :
    (authenticate cfg env st r).2.out = .ok u ↔
      ((Excluded env cfg r ∧ u = []) ∨
       (¬ Excluded env cfg r ∧ ∃ k, (pull st env.served).2 = some k ∧
          JwtGrants env k r (tokenOf cfg env r) u)) := by
  simp only [authenticate, hm, authenticateJWT, ← excluded_iff, mkOut_ok_iff]
  cases matchesPermission env.o cfg.excl r.action r.path
  · cases (pull st env.served).2 <;> simp [jwtDecide_iff]
  · simp [eq_comm]

/-- **C02 (jwt)**: admitted iff excluded, or a key set could be obtained, a token is present (by
precedence), verifies against that key set, and its permission claim grants the action on the path. -/
theorem jwt_iff (cfg : Cfg) (env : Env) (st : St) (r : Req) (hm : cfg.method = .jwt) :
    (∃ u, (authenticate cfg env st r).2.out = .ok u) ↔
      (Excluded env cfg r ∨ ∃ k sub, (pull st env.served).2 = some k ∧
          JwtGrants env k r (tokenOf cfg env r) sub) := by
  simp only [jwt_core cfg env st r hm, exists_ok_iff]
  rw [exists_comm]

/-- reported user of an admitted JWT request: the verified token's subject (none if excluded) -/
theorem jwt_user (cfg : Cfg) (env : Env) (st : St) (r : Req) (u : Bytes) (hm : cfg.method = .jwt)
    (h : (authenticate cfg env st r).2.out = .ok u) (he : ¬ Excluded env cfg r) :
    ∃ k, (pull st env.served).2 = some k ∧ (env.tok (tokenOf cfg env r)).verdict k = some u := by
  rcases (jwt_core cfg env st r hm u).mp h with ⟨he', _⟩ | ⟨_, k, hk, hg⟩
  · exact absurd he' he
  · exact ⟨k, hk, hg.2.1⟩

theorem jwt_rejected (cfg : Cfg) (env : Env) (st : St) (r : Req) (hm : cfg.method = .jwt)
    (he : ¬ Excluded env cfg r)
    (hn : ∀ k u, (pull st env.served).2 = some k → ¬ JwtGrants env k r (tokenOf cfg env r) u) :
    ∃ a, (authenticate cfg env st r).2.out = .err a := by
  refine ⟨_, (out_cases cfg env st r).resolve_left fun ⟨u, h⟩ => ?_⟩
  rcases (jwt_core cfg env st r hm u).mp h with ⟨he', _⟩ | ⟨_, k, hk, hg⟩
  · exact he he'
  · exact hn k u hk hg

/-- the claim decodes iff it is present and is a permission array, or is a JSON string whose content
is a permission array (and the direct decoding failed) -/
theorem decodeClaim_some_iff (c : Claim) (perms : List Perm) :
    decodeClaim c = some perms ↔
      ((∃ s, c = .present (some perms) s) ∨ c = .present none (some (some perms))) := by
  unfold decodeClaim
  split <;> simp

/-- a token without the permission claim is never admitted (unless the request is excluded) -/
theorem jwt_missing_claim (cfg : Cfg) (env : Env) (st : St) (r : Req) (hm : cfg.method = .jwt)
    (he : ¬ Excluded env cfg r) (hc : (env.tok (tokenOf cfg env r)).claim = .missing) :
    ∃ a, (authenticate cfg env st r).2.out = .err a := by
  refine jwt_rejected cfg env st r hm he fun k u _ ⟨_, _, perms, hd, _⟩ => ?_
  rw [hc] at hd
  cases hd

/-- after `RefreshJWTJWKS` the next pull uses what the endpoint serves now -/
theorem pull_after_refresh (st : St) (k : Nat) : (pull (refresh st) (.keys k)).2 = some k := rfl

/-- without a refresh the loaded key set keeps being used, whatever the endpoint serves -/
theorem pull_cached (st : St) (served : Served) (h : st.due = false) :
    pull st served = (st, some st.loaded) := by
  unfold pull
  rw [h]
  rfl

/-- a failed fetch yields no keys and stays due (it is retried on the next request) -/
theorem pull_broken (st : St) (h : st.due = true) : pull st .broken = (st, none) := by
  unfold pull
  rw [h]
  rfl

/-- a failed fetch never admits a non-excluded request -/
theorem jwt_no_keys_no_admission (cfg : Cfg) (env : Env) (st : St) (r : Req) (hm : cfg.method = .jwt)
    (he : ¬ Excluded env cfg r) (hd : st.due = true) (hs : env.served = .broken) :
    ∃ a, (authenticate cfg env st r).2.out = .err a := by
  refine jwt_rejected cfg env st r hm he fun k u hk => ?_
  rw [hs, pull_broken st hd] at hk
  cases hk

/-- state after a jwt authentication: untouched if excluded, else the state after the pull -/
theorem jwt_state (cfg : Cfg) (env : Env) (st : St) (r : Req) (hm : cfg.method = .jwt) :
    (authenticate cfg env st r).1 =
      if matchesPermission env.o cfg.excl r.action r.path then st else (pull st env.served).1 := by
  simp only [authenticate, hm, authenticateJWT]
  cases matchesPermission env.o cfg.excl r.action r.path <;> rfl

/-- events that touch the JWKS state -/
inductive Ev where
  | serve (s : Served)      -- the endpoint's content changes
  | refresh                 -- RefreshJWTJWKS
  | pull                    -- a non-excluded jwt authentication
deriving DecidableEq, Repr

def stepEv : St × Served → Ev → St × Served
  | (st, _), .serve s => (st, s)
  | (st, s), .refresh => (refresh st, s)
  | (st, s), .pull => ((pull st s).1, s)

/-- everything the endpoint has served during a history -/
def servedHist (s0 : Served) (evs : List Ev) : List Served :=
  s0 :: evs.filterMap fun e => match e with | .serve s => some s | _ => none

/-- invariant of the JWKS state relative to a set `H` of key sets: what is served now is in `H`, and
so is the loaded key set once one has been loaded -/
def InHist (H : List Served) (p : St × Served) : Prop :=
  p.2 ∈ H ∧ (p.1.due = false → Served.keys p.1.loaded ∈ H)

theorem inHist_step (H : List Served) (p : St × Served) (e : Ev) (he : ∀ s, e = .serve s → s ∈ H)
    (hp : InHist H p) : InHist H (stepEv p e) := by
  obtain ⟨st, s⟩ := p
  obtain ⟨hs, hl⟩ := hp
  cases e with
  | serve s' => exact ⟨he s' rfl, hl⟩
  | refresh => exact ⟨hs, fun h => by cases h⟩
  | pull =>
    refine ⟨hs, ?_⟩
    -- a pull loads what is served, or keeps what was loaded
    cases hd : st.due with
    | false => simpa [stepEv, pull, hd] using hl hd
    | true =>
      cases s with
      | keys k => simpa [stepEv, pull, hd] using hs
      | broken => simp [stepEv, pull, hd]

theorem inHist_foldl (H : List Served) (evs : List Ev) (p : St × Served)
    (he : ∀ s, Ev.serve s ∈ evs → s ∈ H) (hp : InHist H p) : InHist H (evs.foldl stepEv p) := by
  induction evs generalizing p with
  | nil => exact hp
  | cons e es ih =>
    exact ih _ (fun s h => he s (List.mem_cons_of_mem _ h))
      (inHist_step H p e (fun s h => he s (h ▸ List.mem_cons_self)) hp)

/-- **whole-history**: in every history of serve / refresh / authenticate events, the key set the
manager verifies against is one that the JWKS endpoint actually served at some point. -/
theorem loaded_was_served (s0 : Served) (evs : List Ev) :
    let fin := evs.foldl stepEv ({}, s0)
    fin.1.due = false → Served.keys fin.1.loaded ∈ servedHist s0 evs := by
  refine (inHist_foldl (servedHist s0 evs) evs ({}, s0) (fun s hs => ?_)
    ⟨List.mem_cons_self, fun h => by cases h⟩).2
  exact List.mem_cons_of_mem _ (List.mem_filterMap.mpr ⟨_, hs, rfl⟩)

theorem excluded_eq (env : Env) (cfg : Cfg) (r : Req) :
    excluded env cfg r = matchesPermission env.o cfg.excl r.action r.path := by
  rw [excluded, matchesPermission_eq_any]

theorem jwtDecide_isSome (o : Oracle) (tok : Bytes → TokInfo) (k : Nat) (r : Req) (t : Bytes) :
    (jwtDecide o tok k r t).isSome = specJwt o tok k r t := by
  rw [Bool.eq_iff_iff, Option.isSome_iff_exists]
  simp only [jwtDecide_eq_some, specJwt, matchesPermission_eq_any]
  cases decodeClaim (tok t).claim <;> simp [Option.isSome_iff_exists, and_assoc]

theorem model_conforms (cfg : Cfg) (env : Env) (st : St) (r : Req) :
    specCheck cfg env (pull st env.served).2 r (authenticate cfg env st r).2 = none := by
  unfold specCheck specAdmit
  rw [excluded_eq, ← tokenOf_eq_spec]
  unfold authenticate
  cases cfg.method
  · simp only [authenticateHTTP_eq]
    cases hx : matchesPermission env.o cfg.excl r.action r.path
    · cases is2xx (env.authority (postOf r (tokenOf cfg env r))) <;> simp [mkOut, askOf]
    · simp [mkOut]
  · simp only [authenticateJWT]
    cases hx : matchesPermission env.o cfg.excl r.action r.path
    · cases hp : (pull st env.served).2 with
      | none => simp [mkOut, askOf]
      | some k =>
        simp only [← jwtDecide_isSome]
        cases hd : jwtDecide env.o env.tok k r (tokenOf cfg env r) with
        | none => simp [mkOut, askOf]
        | some u => simp [mkOut, ((jwtDecide_eq_some ..).mp hd).2.1]
    · simp [mkOut]

/-! ### non-vacuity -/

section Examples

def exO : Oracle := ⟨fun _ _ => some false, fun _ => [], fun _ _ => false⟩

def exReq : Req :=
  { action := C01.aRead, path := asc ['c','a','m'], query := asc ['t','o','k','e','n','=','q'],
    proto := pRTSP, user := [], pass := [], token := [], enableAsk := true,
    ipStr := asc ['1','.','2','.','3','.','4'], userAgent := [], id := none }

def exTok : Bytes → TokInfo := fun t =>
  if t = asc ['q'] then
    ⟨fun k => if k = 1 then some (asc ['b','o','b']) else none,
     .present none (some (some [⟨C01.aRead, []⟩]))⟩
  else ⟨fun _ => none, .missing⟩

def exEnv (served : Served) (status : Nat) : Env :=
  ⟨exO, some ⟨[asc ['q']], []⟩, fun _ => .status status, exTok, served⟩

-- jwt: token from the query (RTSP), claim given as a string, key set 1 served: admitted as `bob`
example : (authenticate ⟨.jwt, [], false⟩ (exEnv (.keys 1) 0) {} exReq).2.out = .ok (asc ['b','o','b']) := by decide +kernel
-- same token but the endpoint serves key set 2: rejected; a token was supplied ⇒ no ask
example : (authenticate ⟨.jwt, [], false⟩ (exEnv (.keys 2) 0) {} exReq).2.out = .err false := by decide +kernel
-- stale keys: set 1 already loaded, endpoint now serves 2, no refresh ⇒ still admitted
example : (authenticate ⟨.jwt, [], false⟩ (exEnv (.keys 2) 0) ⟨false, 1⟩ exReq).2.out
    = .ok (asc ['b','o','b']) := by decide +kernel
-- http: 204 admits and the POST carries the query token; 300 rejects
example : (authenticate ⟨.http, [], false⟩ (exEnv .broken 204) {} exReq).2
    = ⟨.ok [], some (postOf exReq (asc ['q']))⟩ := by decide +kernel
example : (authenticate ⟨.http, [], false⟩ (exEnv .broken 300) {} exReq).2.out = .err false := by decide +kernel
-- excluded: admitted without contacting anyone
example : (authenticate ⟨.http, [⟨C01.aRead, []⟩], false⟩ (exEnv .broken 500) {} exReq).2 = ⟨.ok [], none⟩ := by decide +kernel
-- no credentials at all and asking allowed ⇒ ask
example : (authenticate ⟨.jwt, [], false⟩ (exEnv (.keys 1) 0) {} { exReq with query := [], proto := pHLS }).2.out
    = .err true := by decide +kernel

end Examples

end MtxVerif.C02
