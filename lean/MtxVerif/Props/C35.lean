/-
C35 — no unauthenticated network input crashes the server.  Property theorems (partial by design).

What is proved: for ALL inputs, the models of the MediaMTX-owned code that handles client-chosen
bytes before authentication never reach the `panic` outcome (index / slice out of range, division by
zero), i.e. they cannot be the cause of a process exit (HTTP handlers run under `handlerExitOnPanic`,
which turns a panic into `os.Exit(1)`; a panic in a connection goroutine kills the process too).

What is NOT proved: anything about the third-party protocol stacks (gortsplib, gortmplib, gosrt, pion,
quic-go, net/http, gin) that parse the bytes first — see `level_note` in props/C35.json.
-/
import MtxVerif.Model.C35
import MtxVerif.Props.C44
import MtxVerif.Lemmas.C32Moq
import MtxVerif.Gen.C35

namespace MtxVerif.C35

theorem ok_ne_panic (v : α) : R.ok v ≠ .panic := nofun

theorem err_ne_panic : (R.err : R α) ≠ .panic := nofun

theorem bind_ne_panic {r : R α} {f : α → R β} (h1 : r ≠ .panic) (h2 : ∀ v, r = .ok v → f v ≠ .panic) :
    r.bind f ≠ .panic := by
  cases r with
  | ok v => exact h2 v rfl
  | err => exact err_ne_panic
  | panic => exact absurd rfl h1

/-- "does not panic" passes through a conditional; as a `simp` lemma it disposes of the decision trees
that only compare strings -/
theorem ite_ne_panic_iff {c : Prop} [Decidable c] {a b : R α} :
    (if c then a else b) ≠ .panic ↔ (c → a ≠ .panic) ∧ (¬ c → b ≠ .panic) := by
  by_cases h : c <;> simp [h]

theorem ite_ne_panic {c : Prop} [Decidable c] {a b : R α} (ha : c → a ≠ .panic) (hb : ¬ c → b ≠ .panic) :
    (if c then a else b) ≠ .panic :=
  ite_ne_panic_iff.mpr ⟨ha, hb⟩

theorem idx_ne_panic {l : List α} {i : Int} (h : 0 ≤ i ∧ i < l.length) : idx l i ≠ .panic := by
  have hl : i.toNat < l.length := by omega
  rw [idx, if_neg (by omega), List.getElem?_eq_getElem hl]
  exact ok_ne_panic _

theorem sliceR_ne_panic {s : List α} {lo hi : Int} (h : 0 ≤ lo ∧ lo ≤ hi ∧ hi ≤ s.length) :
    sliceR s lo hi ≠ .panic := by
  rw [sliceR, if_pos h]; exact ok_ne_panic _

theorem sliceFrom_ne_panic {s : List α} {lo : Int} (h : 0 ≤ lo ∧ lo ≤ s.length) : sliceFrom s lo ≠ .panic :=
  sliceR_ne_panic ⟨h.1, h.2, Int.le_refl _⟩

@[simp] theorem bind_eq (r : R α) (f : α → R β) : (r >>= f) = r.bind f := rfl
@[simp] theorem pure_eq (v : α) : (pure v : R α) = .ok v := rfl

theorem hasPrefix_len {p s : Bytes} (h : hasPrefix p s = true) : p.length ≤ s.length := by
  have := congrArg List.length (beq_iff_eq.mp h)
  rw [List.length_take] at this
  omega

theorem hasSuffix_len {p s : Bytes} (h : hasSuffix p s = true) : p.length ≤ s.length := by
  rw [hasSuffix, Bool.and_eq_true, decide_eq_true_eq] at h
  exact h.1

theorem srtStdKV_total (s : StreamID) (kv : Bytes) : srtStdKV s kv ≠ .panic := by
  rw [srtStdKV]
  refine ite_ne_panic (fun _ => err_ne_panic) fun hl => ?_
  refine bind_ne_panic (idx_ne_panic (by omega)) fun key _ => ?_
  refine bind_ne_panic (idx_ne_panic (by omega)) fun value _ => ?_
  simp only [ite_ne_panic_iff, pure_eq, ne_eq, reduceCtorEq, not_false_eq_true, implies_true, and_self]

theorem srtStdLoop_total (s : StreamID) (kvs : List Bytes) : srtStdLoop s kvs ≠ .panic := by
  induction kvs generalizing s with
  | nil => exact ok_ne_panic s
  | cons kv rest ih => exact bind_ne_panic (srtStdKV_total s kv) fun s' _ => ih s'

theorem srtLegacy_total (raw : Bytes) : srtLegacy raw ≠ .panic := by
  rw [srtLegacy]
  generalize splitOn 58 raw = parts
  refine ite_ne_panic (fun _ => err_ne_panic) fun hn => ?_
  -- 2 ≤ n ≤ 5 parts: every index below is bounded by the `n = …` test in front of it
  refine bind_ne_panic (idx_ne_panic (by omega)) fun last _ => ?_
  generalize hp : parts.set _ _ = parts'
  have hl : parts'.length = parts.length := by rw [← hp, List.length_set]
  refine bind_ne_panic (idx_ne_panic (by omega)) fun p0 _ => ?_
  refine bind_ne_panic (by simp only [ite_ne_panic_iff, ne_eq, reduceCtorEq, not_false_eq_true, implies_true, and_self]) fun publish _ => ?_
  refine bind_ne_panic (idx_ne_panic (by omega)) fun path _ => ?_
  refine bind_ne_panic ?_ fun up _ => bind_ne_panic ?_ fun query _ => ok_ne_panic _
  · refine ite_ne_panic (fun h45 => ?_) fun _ => ok_ne_panic _
    refine bind_ne_panic (idx_ne_panic (by omega)) fun u _ => ?_
    exact bind_ne_panic (idx_ne_panic (by omega)) fun p _ => ok_ne_panic _
  · refine ite_ne_panic (fun h3 => idx_ne_panic (by omega)) fun _ => ?_
    exact ite_ne_panic (fun h5 => idx_ne_panic (by omega)) fun _ => ok_ne_panic _

/-- **SRT**: no stream id string makes `streamID.unmarshal` index out of range -/
theorem srt_total (raw : Bytes) : srtUnmarshal raw ≠ .panic := by
  rw [srtUnmarshal]
  refine ite_ne_panic (fun h => ?_) fun _ => srtLegacy_total raw
  have hl : 4 ≤ raw.length := hasPrefix_len h
  exact bind_ne_panic (sliceFrom_ne_panic (by omega)) fun rest _ => srtStdLoop_total _ _

/-- **credentials**: whatever the Authorization header values -/
theorem credentials_total (auths : List Bytes) (basic : Bytes × Bytes) :
    credentials auths basic ≠ .panic := by
  induction auths with
  | nil => exact ok_ne_panic _
  | cons a rest ih =>
    rw [credentials]
    refine ite_ne_panic (fun h => ?_) fun _ => ih
    have hl : bearer.length ≤ a.length := hasPrefix_len h
    refine bind_ne_panic (sliceFrom_ne_panic (by omega)) fun tok _ => ?_
    refine ite_ne_panic (fun h2 => ?_) fun _ => ok_ne_panic _
    refine bind_ne_panic (idx_ne_panic (by omega)) fun u _ => ?_
    exact bind_ne_panic (idx_ne_panic (by omega)) fun p _ => ok_ne_panic _

theorem filterPath_total (p : Bytes) : filterPath p ≠ .panic := by
  rw [filterPath]
  refine ite_ne_panic (fun _ => ok_ne_panic _) fun h => ?_
  have := mt List.isEmpty_iff_length_eq_zero.mpr h
  exact bind_ne_panic (idx_ne_panic (by omega)) fun c _ => ok_ne_panic _

theorem filterPath_pass (p : Bytes) (h : filterPath p = .ok true) : p ≠ [] := by
  intro e
  rw [e] at h
  cases h

theorem hlsRoute_total_of_nonempty (isGet : Bool) (p q oDir oBase oClean : Bytes) (hp : p ≠ []) :
    hlsRoute isGet p q oDir oBase oClean ≠ .panic := by
  have hl : 1 ≤ p.length := List.length_pos_iff.mpr hp
  rw [hlsRoute]
  refine ite_ne_panic (fun _ => ok_ne_panic _) fun _ => ?_
  refine bind_ne_panic (sliceFrom_ne_panic (by omega)) fun pa _ => ?_
  -- the routes chosen by comparing strings return at once; left is the index route
  simp only [ite_ne_panic_iff, pure_eq, ne_eq, reduceCtorEq, not_false_eq_true, implies_true, and_self,
    true_and]
  intro _ _ _ _ hs
  -- `dir[:len(dir)-1]` after `HasSuffix(dir, "/")`
  have hl2 : 1 ≤ pa.length := hasSuffix_len (p := asc ['/']) (by simpa using hs)
  exact bind_ne_panic (sliceR_ne_panic (by omega)) fun _ _ => ok_ne_panic _

/-- **HLS**: behind the empty-path filter, no request path makes `onRequest` slice out of range -/
theorem hls_total (isGet : Bool) (p q oDir oBase oClean : Bytes) :
    hlsServe isGet p q oDir oBase oClean ≠ .panic := by
  refine bind_ne_panic (filterPath_total p) fun pass hpass => ?_
  refine ite_ne_panic (fun h => ?_) fun _ => ok_ne_panic _
  rw [h] at hpass
  exact bind_ne_panic (hlsRoute_total_of_nonempty _ _ _ _ _ _ (filterPath_pass p hpass)) fun _ _ =>
    ok_ne_panic _

/-- the filter is load-bearing: `URL.Path[1:]` on the empty path (absolute-form request target
`GET http://host HTTP/1.1`) is a slice out of range, which `handlerExitOnPanic` turns into exit(1) -/
theorem hlsRoute_needs_filter (q d b c : Bytes) : hlsRoute true [] q d b c = .panic := rfl

/-- **WebRTC**: `FindStringSubmatch` returns 1 + (number of groups) strings when it matches; under
that contract of the regexp package no method / path makes `onRequest` index out of range -/
theorem rtc_total (meth : Method) (p q : Bytes) (m1 m2 : Option (List Bytes)) (oClean : Bytes)
    (h1 : ∀ m, m1 = some m → m.length = 3) (h2 : ∀ m, m2 = some m → m.length = 4) :
    rtcRoute meth p q m1 m2 oClean ≠ .panic := by
  unfold rtcRoute
  cases m1 with
  | some m =>
    have := h1 m rfl
    have i1 := idx_ne_panic (l := m) (i := 1) (by omega)
    have i2 := idx_ne_panic (l := m) (i := 2) (by omega)
    cases meth <;>
      first
      | exact ok_ne_panic _
      | exact bind_ne_panic i1 fun _ _ => bind_ne_panic i2 fun _ _ => ok_ne_panic _
  | none =>
    cases m2 with
    | some m =>
      have := h2 m rfl
      have i3 := idx_ne_panic (l := m) (i := 3) (by omega)
      cases meth <;> first | exact ok_ne_panic _ | exact bind_ne_panic i3 fun _ _ => ok_ne_panic _
    | none =>
      -- four routes chosen by comparing strings, then the page routes, which slice the path
      iterate 4 refine ite_ne_panic (fun _ => ok_ne_panic _) fun _ => ?_
      refine ite_ne_panic (fun hlen => ?_) fun _ => ok_ne_panic _
      refine ite_ne_panic (fun hp => ?_) fun _ => ?_
      · have hl : slashPublish.length = 8 := rfl
        rw [Bool.and_eq_true, decide_eq_true_eq, hl] at hp
        rw [hl]
        exact bind_ne_panic (sliceR_ne_panic (by omega)) fun _ _ => ok_ne_panic _
      · refine bind_ne_panic (idx_ne_panic (by omega)) fun last _ => ?_
        refine ite_ne_panic (fun _ => ok_ne_panic _) fun _ => ?_
        exact bind_ne_panic (sliceR_ne_panic (by omega)) fun _ _ => ok_ne_panic _

theorem paramName_total (name : Bytes) : paramName name ≠ .panic := by
  rw [paramName]
  refine ite_ne_panic (fun _ => ok_ne_panic _) fun h => ?_
  refine bind_ne_panic (idx_ne_panic (by omega)) fun c _ => ?_
  refine ite_ne_panic (fun _ => ok_ne_panic _) fun _ => ?_
  exact bind_ne_panic (sliceFrom_ne_panic (by omega)) fun _ _ => ok_ne_panic _

/-- **pagination**: no division by zero, no slice out of range, for every list length and parameters -/
theorem paginate_total (len : Nat) (ippStr pageStr : Bytes) : paginateR len ippStr pageStr ≠ .panic := by
  rw [paginateR]
  cases h : C44.parseParams ippStr pageStr with
  | none => exact err_ne_panic
  | some v =>
    obtain ⟨ipp, page⟩ := v
    have hpos := (C44.products_fit _ _ _ _ h).1
    have hd : divR (len : Int) (ipp : Int) ≠ .panic := by
      rw [divR, if_neg (by omega)]; exact ok_ne_panic _
    refine ite_ne_panic (fun _ => ok_ne_panic _) fun _ => ?_
    refine bind_ne_panic hd fun _ _ => bind_ne_panic hd fun _ _ => ?_
    have hle : page * ipp ≤ (page + 1) * ipp := Nat.mul_le_mul_right _ (by omega)
    exact bind_ne_panic (sliceR_ne_panic (by rw [List.length_range]; omega)) fun _ _ => ok_ne_panic _

/-! ### MoQ (from C32): the decoders that run on the first bytes of every stream -/

theorem moq_total (b : Bytes) :
    (C32.readMsg b).r ≠ .panic ∧ (C32.readSubGroup b).r ≠ .panic :=
  ⟨C32.total_readMsg b, C32.total_readSubGroup b⟩

/-- **SRT conn**: stream id → request mapping -/
theorem srtConn_total (raw : Bytes) : srtConnRequest raw ≠ .panic :=
  bind_ne_panic (srt_total raw) fun _ _ => ok_ne_panic _

/-- **RTMP conn**: no indexing at all (`strings.TrimLeft`) -/
theorem rtmpConn_total (pub : Bool) (p q u w : Bytes) : rtmpConnRequest pub p q u w ≠ .panic :=
  ok_ne_panic _

theorem bind_eq_ok {r : R α} {f : α → R β} {w : β} (h : r.bind f = .ok w) : ∃ v, r = .ok v ∧ f v = .ok w := by
  cases r with
  | ok v => exact ⟨v, rfl, h⟩
  | err => cases h
  | panic => cases h

theorem rtspStrip_ok {path name : Bytes} (h : rtspStrip path = .ok name) :
    1 ≤ path.length ∧ sliceFrom path 1 = .ok name := by
  rw [rtspStrip] at h
  split at h
  · cases h
  obtain ⟨c, -, h⟩ := bind_eq_ok h
  split at h
  · cases h
  · exact ⟨by omega, h⟩

/-- **RTSP** `onDescribe` / `onAnnounce` / `onSetup`: the guard dominates `ctx.Path[1:]` -/
theorem rtspStrip_total (path : Bytes) : rtspStrip path ≠ .panic := by
  rw [rtspStrip]
  refine ite_ne_panic (fun _ => err_ne_panic) fun h => ?_
  refine bind_ne_panic (idx_ne_panic (by omega)) fun c _ => ?_
  exact ite_ne_panic (fun _ => err_ne_panic) fun _ => sliceFrom_ne_panic (by omega)

/-- **RTSP** `rsession.Path()[1:]` after an accepted ANNOUNCE -/
theorem rtspStored_total (announced : Bytes) : rtspStoredPathName announced ≠ .panic :=
  bind_ne_panic (rtspStrip_total announced) fun _ hv =>
    sliceFrom_ne_panic (by have := (rtspStrip_ok hv).1; omega)

/-- …and it is the same name `onAnnounce` passed to the path manager -/
theorem rtspStored_eq (announced name : Bytes) (h : rtspStrip announced = .ok name) :
    rtspStoredPathName announced = .ok name := by
  rw [rtspStoredPathName, h]
  exact (rtspStrip_ok h).2

theorem isValidPathName_total (name : Bytes) (reOk : Bool) : isValidPathName name reOk ≠ .panic := by
  rw [isValidPathName]
  refine ite_ne_panic (fun _ => ok_ne_panic _) fun h => ?_
  have := mt List.isEmpty_iff_length_eq_zero.mpr h
  refine bind_ne_panic (idx_ne_panic (by omega)) fun c0 _ => ?_
  refine ite_ne_panic (fun _ => ok_ne_panic _) fun _ => ?_
  refine bind_ne_panic (idx_ne_panic (by omega)) fun cl _ => ?_
  simp only [ite_ne_panic_iff, pure_eq, ne_eq, reduceCtorEq, not_false_eq_true, implies_true, and_self]

/-- **playback /get**: whatever the query parameters and whatever the library parsers answer -/
theorem playbackGet_total (path : Bytes) (reOk authOk startOk durOk confOk : Bool) (format : Bytes) :
    playbackGet path reOk authOk startOk durOk confOk format ≠ .panic := by
  refine bind_ne_panic (isValidPathName_total _ _) fun v _ => ?_
  simp only [ite_ne_panic_iff, pure_eq, ne_eq, reduceCtorEq, not_false_eq_true, implies_true, and_self]

/-- **playback /list** -/
theorem playbackList_total (path : Bytes) (reOk authOk confOk : Bool) (st en : Bytes) (sOk eOk : Bool) :
    playbackList path reOk authOk confOk st en sOk eOk ≠ .panic := by
  refine bind_ne_panic (isValidPathName_total _ _) fun v _ => ?_
  simp only [ite_ne_panic_iff, pure_eq, ne_eq, reduceCtorEq, not_false_eq_true, implies_true, and_self]

theorem splitOn_ne_nil (sep : UInt8) (b : Bytes) : splitOn sep b ≠ [] := by
  fun_cases splitOn sep b
  all_goals exact List.cons_ne_nil _ _

/-- **Content-Type**: `strings.Split(v, ";")[0]` always exists -/
theorem parseContentType_total (v : Bytes) : parseContentType v ≠ .panic := by
  have := List.length_pos_iff.mpr (splitOn_ne_nil 59 v)
  exact bind_ne_panic (idx_ne_panic (by omega)) fun _ _ => ok_ne_panic _

/-! ### the request logger in front of every HTTP handler -/

/-- **dumpRequest**: the logged part of the body never depends on the declared Content-Length
(−1 for chunked / HTTP-2 bodies) and the truncation slice is in range -/
theorem dumpCapped_total (contentLength : Int) (body : Bytes) : dumpCapped contentLength body ≠ .panic := by
  rw [dumpCapped]
  refine ite_ne_panic (fun h => ?_) fun _ => ok_ne_panic _
  exact bind_ne_panic (sliceR_ne_panic (by omega)) fun _ _ => ok_ne_panic _

/-! ### media packets of an anonymous publisher (WebRTC inbound track) -/

/-- **stripTWCCExtension**: under pion/rtp's contract (`GetExtension(id) != nil` only if an element
with that id exists) `DelExtension` cannot fail, so the `panic(err)` is unreachable -/
theorem stripTWCC_total (twccID : Nat) (p : RtpExt) (getNonNil : Bool)
    (h : getNonNil = true → twccID ∈ p.ids) : stripTWCC twccID p getNonNil ≠ .panic := by
  rw [stripTWCC]
  refine ite_ne_panic (fun _ => ok_ne_panic _) fun hg => ?_
  have hm : twccID ∈ p.ids := h (by cases getNonNil <;> simp_all)
  rw [if_neg (by simpa using hm)]
  exact ite_ne_panic (fun _ => ok_ne_panic _) fun _ => ok_ne_panic _

/-- the guard matters: a packet that has an extension block but no TWCC element, treated as if
`GetExtension` had answered non-nil (the seeded "fast path" `!pkt.Extension`), reaches the panic -/
theorem stripTWCC_needs_guard : stripTWCC 3 ⟨true, 0xBEDE, [1]⟩ true = .panic := by decide

/-- the modelled pre-authentication code never panics, whatever the client sends -/
theorem preauth_owned_code_total :
    (∀ raw, srtUnmarshal raw ≠ .panic) ∧ (∀ raw, srtConnRequest raw ≠ .panic) ∧
    (∀ pub p q u w, rtmpConnRequest pub p q u w ≠ .panic) ∧
    (∀ p, rtspStrip p ≠ .panic) ∧ (∀ p, rtspStoredPathName p ≠ .panic) ∧
    (∀ auths basic, credentials auths basic ≠ .panic) ∧
    (∀ p, filterPath p ≠ .panic) ∧
    (∀ g p q d b c, hlsServe g p q d b c ≠ .panic) ∧
    (∀ meth p q m1 m2 c, (∀ m, m1 = some m → m.length = 3) → (∀ m, m2 = some m → m.length = 4) →
      rtcRoute meth p q m1 m2 c ≠ .panic) ∧
    (∀ v, parseContentType v ≠ .panic) ∧
    (∀ name, paramName name ≠ .panic) ∧
    (∀ len a b, paginateR len a b ≠ .panic) ∧
    (∀ n re, isValidPathName n re ≠ .panic) ∧
    (∀ p re a s d c f, playbackGet p re a s d c f ≠ .panic) ∧
    (∀ p re a c s e so eo, playbackList p re a c s e so eo ≠ .panic) ∧
    (∀ id p g, (g = true → id ∈ p.ids) → stripTWCC id p g ≠ .panic) ∧
    (∀ b, (C32.readMsg b).r ≠ .panic ∧ (C32.readSubGroup b).r ≠ .panic) :=
  ⟨srt_total, srtConn_total, rtmpConn_total, rtspStrip_total, rtspStored_total, credentials_total,
   filterPath_total, hls_total,
   fun meth p q m1 m2 c h1 h2 => rtc_total meth p q m1 m2 c h1 h2, parseContentType_total,
   paramName_total, paginate_total, isValidPathName_total, playbackGet_total, playbackList_total,
   stripTWCC_total, moq_total⟩

theorem dec_bind_post {d : C32.Dec α} {f : α → C32.Dec β} {P : β → Prop}
    (hf : ∀ w r1 v r, (f w r1).r = .ok v r → P v) (b : Bytes) :
    ∀ v r, (C32.Dec.bind d f b).r = .ok v r → P v := by
  intro v r h
  rw [C32.bind_r] at h
  split at h
  · exact hf _ _ v r h
  · cases h
  · cases h

/-- `onDataCatalog` reads `sg.Objects[0]`: a successfully read subgroup has exactly one object -/
theorem moq_subgroup_one_object (b : Bytes) (s : C32.SubGroup) (rest : Bytes)
    (h : (C32.readSubGroup b).r = .ok s rest) : s.objects.length = 1 := by
  revert s rest
  -- header, object, check, object, check, then `pure ⟨header, [object]⟩`
  refine dec_bind_post (fun hd _ => ?_) b
  refine dec_bind_post (fun o1 _ => ?_) _
  refine dec_bind_post (fun _ _ => ?_) _
  refine dec_bind_post (fun o2 _ => ?_) _
  refine dec_bind_post (fun _ _ => ?_) _
  intro s rest h
  cases h
  rfl

/-! ### tie to the source: inventory of index / slice expressions and of the authentication boundary

`Gen/C35.lean` is regenerated from /repo at every check.  The two `rfl` theorems state that the
inventory is EXACTLY the reviewed list below: a new index or slice expression in the inventoried
pre-authentication code, or a new function calling the path manager / authentication manager, changes
the generated list and breaks the build until it is reviewed (modelled, or classified). -/

inductive Cover
  | model (name : String)      -- obligation carried by the named model of Model/C35 (proved total)
  | map                        -- map / header lookup: cannot panic
  | fixed                      -- slice of a fixed-size array with constant bounds
  | guarded (by_ : String)     -- not a client string; guarded in the same function as quoted
  | postAuth (why : String)    -- only reachable after the authentication boundary

/-- expected inventory, each row with what covers its run-time check -/
def expectedSites : List ((String × String × String) × Cover) := [
  (("internal/protocols/httpp/credentials.go", "Credentials", "h.Header[\"Authorization\"]"), .map),
  (("internal/protocols/httpp/credentials.go", "Credentials", "auth[len(\"Bearer \"):]"), .model "credentials"),
  (("internal/protocols/httpp/credentials.go", "Credentials", "parts[0]"), .model "credentials"),
  (("internal/protocols/httpp/credentials.go", "Credentials", "parts[1]"), .model "credentials"),
  (("internal/protocols/httpp/credentials.go", "Credentials", "auth[len(\"Bearer \"):]"), .model "credentials"),
  (("internal/protocols/httpp/handler_filter_requests.go", "*handlerFilterRequests.ServeHTTP", "r.URL.Path[0]"), .model "filterPath"),
  (("internal/protocols/httpp/content_type.go", "ParseContentType", "strings.Split(v, \";\")[0]"), .model "parseContentType"),
  (("internal/protocols/httpp/handler_logger.go", "dumpRequest", "capped[:maxRequestBodySizeToLog]"), .model "dumpCapped"),
  (("internal/protocols/httpp/handler_logger.go", "dumpRequest", "req.Header[k]"), .map),
  (("internal/protocols/httpp/handler_logger.go", "dumpRequest", "requestHeadersToRedact[http.CanonicalHeaderKey(k)]"), .map),
  (("internal/protocols/httpp/handler_logger.go", "*responseRecorder.Write", "requestBodyContentTypeToLog[contentType]"), .map),
  (("internal/protocols/httpp/handler_exit_on_panic.go", "*handlerExitOnPanic.ServeHTTP", "buf[:n]"), .guarded "n = runtime.Stack(buf) <= len(buf)"),
  (("internal/conf/path.go", "IsValidPathName", "name[0]"), .model "isValidPathName"),
  (("internal/conf/path.go", "IsValidPathName", "name[len(name)-1]"), .model "isValidPathName"),
  (("internal/servers/srt/streamid.go", "*streamID.unmarshal", "raw[len(\"#!::\"):]"), .model "srtUnmarshal"),
  (("internal/servers/srt/streamid.go", "*streamID.unmarshal", "kv2[0]"), .model "srtUnmarshal"),
  (("internal/servers/srt/streamid.go", "*streamID.unmarshal", "kv2[1]"), .model "srtUnmarshal"),
  (("internal/servers/srt/streamid.go", "*streamID.unmarshal", "parts[len(parts)-1]"), .model "srtUnmarshal"),
  (("internal/servers/srt/streamid.go", "*streamID.unmarshal", "parts[len(parts)-1]"), .model "srtUnmarshal"),
  (("internal/servers/srt/streamid.go", "*streamID.unmarshal", "parts[0]"), .model "srtUnmarshal"),
  (("internal/servers/srt/streamid.go", "*streamID.unmarshal", "parts[1]"), .model "srtUnmarshal"),
  (("internal/servers/srt/streamid.go", "*streamID.unmarshal", "parts[2]"), .model "srtUnmarshal"),
  (("internal/servers/srt/streamid.go", "*streamID.unmarshal", "parts[3]"), .model "srtUnmarshal"),
  (("internal/servers/srt/streamid.go", "*streamID.unmarshal", "parts[2]"), .model "srtUnmarshal"),
  (("internal/servers/srt/streamid.go", "*streamID.unmarshal", "parts[4]"), .model "srtUnmarshal"),
  (("internal/servers/rtsp/conn.go", "*conn.onDescribe", "ctx.Path[0]"), .model "rtspStrip"),
  (("internal/servers/rtsp/conn.go", "*conn.onDescribe", "ctx.Path[1:]"), .model "rtspStrip"),
  (("internal/servers/rtsp/session.go", "findSingleMPEGTSFormat", "desc.Medias[0]"), .guarded "len(desc.Medias) != 1 || len(Formats) != 1 returns first"),
  (("internal/servers/rtsp/session.go", "findSingleMPEGTSFormat", "desc.Medias[0].Formats[0]"), .guarded "len(desc.Medias) != 1 || len(Formats) != 1 returns first"),
  (("internal/servers/rtsp/session.go", "findSingleMPEGTSFormat", "desc.Medias[0]"), .guarded "len(desc.Medias) != 1 || len(Formats) != 1 returns first"),
  (("internal/servers/rtsp/session.go", "findSingleMPEGTSFormat", "desc.Medias[0]"), .guarded "len(desc.Medias) != 1 || len(Formats) != 1 returns first"),
  (("internal/servers/rtsp/session.go", "*session.Log", "s.uuid[:4]"), .fixed),
  (("internal/servers/rtsp/session.go", "*session.onAnnounce", "ctx.Path[0]"), .model "rtspStrip"),
  (("internal/servers/rtsp/session.go", "*session.onAnnounce", "ctx.Path[1:]"), .model "rtspStrip"),
  (("internal/servers/rtsp/session.go", "*session.onAnnounce", "ctx.Request.Header[\"User-Agent\"]"), .map),
  (("internal/servers/rtsp/session.go", "*session.onAnnounce", "ua[0]"), .guarded "len(ua) > 0"),
  (("internal/servers/rtsp/session.go", "*session.onSetup", "ctx.Path[0]"), .model "rtspStrip"),
  (("internal/servers/rtsp/session.go", "*session.onSetup", "ctx.Path[1:]"), .model "rtspStrip"),
  (("internal/servers/rtsp/session.go", "*session.onSetup", "s.transports[gortsplib.ProtocolTCP]"), .map),
  (("internal/servers/rtsp/session.go", "*session.onSetup", "ctx.Request.Header[\"User-Agent\"]"), .map),
  (("internal/servers/rtsp/session.go", "*session.onSetup", "ua[0]"), .guarded "len(ua) > 0"),
  (("internal/servers/rtsp/session.go", "*session.onRecord", "s.rsession.Path()[1:]"), .model "rtspStoredPathName"),
  (("internal/servers/rtsp/session.go", "*session.onRecord", "s.rsession.Path()[1:]"), .model "rtspStoredPathName"),
  (("internal/servers/rtsp/session.go", "*session.apiItem", "pa[1:]"), .guarded "len(pa) >= 1"),
  (("internal/servers/hls/http_server.go", "*httpServer.onRequest", "ctx.Request.URL.Path[1:]"), .model "hlsRoute"),
  (("internal/servers/hls/http_server.go", "*httpServer.onRequest", "dir[:len(dir)-1]"), .model "hlsRoute"),
  (("internal/servers/webrtc/http_server.go", "*httpServer.onWHIPOptions", "ctx.Writer.Header()[\"Link\"]"), .map),
  (("internal/servers/webrtc/http_server.go", "*httpServer.onWHIPPost", "ctx.Writer.Header()[\"Link\"]"), .map),
  (("internal/servers/webrtc/http_server.go", "*httpServer.onRequest", "m[1]"), .model "rtcRoute"),
  (("internal/servers/webrtc/http_server.go", "*httpServer.onRequest", "m[2]"), .model "rtcRoute"),
  (("internal/servers/webrtc/http_server.go", "*httpServer.onRequest", "m[1]"), .model "rtcRoute"),
  (("internal/servers/webrtc/http_server.go", "*httpServer.onRequest", "m[2]"), .model "rtcRoute"),
  (("internal/servers/webrtc/http_server.go", "*httpServer.onRequest", "m[3]"), .model "rtcRoute"),
  (("internal/servers/webrtc/http_server.go", "*httpServer.onRequest", "m[3]"), .model "rtcRoute"),
  (("internal/servers/webrtc/http_server.go", "*httpServer.onRequest", "ctx.Request.URL.Path[1 : len(ctx.Request.URL.Path)-len(\"/publish\")]"), .model "rtcRoute"),
  (("internal/servers/webrtc/http_server.go", "*httpServer.onRequest", "ctx.Request.URL.Path[len(ctx.Request.URL.Path)-1]"), .model "rtcRoute"),
  (("internal/servers/webrtc/http_server.go", "*httpServer.onRequest", "ctx.Request.URL.Path[1 : len(ctx.Request.URL.Path)-1]"), .model "rtcRoute"),
  (("internal/servers/moq/session.go", "*session.Log", "s.uuid[:4]"), .fixed),
  (("internal/servers/moq/session.go", "*session.runUniStream", "firstByte[0]"), .guarded "br.Peek(1) returned no error"),
  (("internal/servers/moq/session.go", "truncateReason", "s[:maxReasonLen]"), .guarded "len(s) > maxReasonLen"),
  (("internal/servers/moq/session.go", "*session.onSubscribeTrack", "s.setupTracks[trackID]"), .postAuth "0 <= trackID < len(s.setupTracks) checked under the mutex"),
  (("internal/servers/moq/session.go", "*session.onPublishCatalog", "writeFuncs[trackAlias]"), .map),
  (("internal/servers/moq/session.go", "*session.onPublishCatalog", "s.inboundTracks[trackAlias]"), .map),
  (("internal/servers/moq/session.go", "*session.onDataCatalog", "sg.Objects[0]"), .postAuth "SubGroup.Read returns exactly one object (moq_subgroup_one_object)"),
  (("internal/servers/moq/session.go", "*session.onDataTrack", "s.inboundTracks[sg.Header.TrackAlias]"), .map),
  (("internal/api/api.go", "paramName", "name[0]"), .model "paramName"),
  (("internal/api/api.go", "paramName", "name[1:]"), .model "paramName"),
  (("internal/playback/on_list.go", "*Server.onList", "entries[0]"), .postAuth "after doAuth and FindSegments; entries non-empty checks in place (not modelled)"),
  (("internal/playback/on_list.go", "*Server.onList", "entries[1:]"), .postAuth "after doAuth and FindSegments; entries non-empty checks in place (not modelled)"),
  (("internal/playback/on_list.go", "*Server.onList", "entries[0]"), .postAuth "after doAuth and FindSegments; entries non-empty checks in place (not modelled)"),
  (("internal/playback/on_list.go", "*Server.onList", "entries[0]"), .postAuth "after doAuth and FindSegments; entries non-empty checks in place (not modelled)"),
  (("internal/playback/on_list.go", "*Server.onList", "entries[len(entries)-1]"), .postAuth "after doAuth and FindSegments; entries non-empty checks in place (not modelled)"),
  (("internal/playback/on_list.go", "*Server.onList", "entries[len(entries)-1]"), .postAuth "after doAuth and FindSegments; entries non-empty checks in place (not modelled)"),
  (("internal/playback/on_list.go", "*Server.onList", "entries[i]"), .postAuth "after doAuth and FindSegments; entries non-empty checks in place (not modelled)"),
  (("internal/playback/on_list.go", "*Server.onList", "entries[i]"), .postAuth "after doAuth and FindSegments; entries non-empty checks in place (not modelled)"),
  (("internal/playback/on_list.go", "*Server.onList", "entries[i]"), .postAuth "after doAuth and FindSegments; entries non-empty checks in place (not modelled)")
]

def expectedBoundary : List (String × String × String) := [
  ("internal/servers/srt/conn.go", "*conn.runPublish", "FindPathConf"),
  ("internal/servers/srt/conn.go", "*conn.runPublishReader", "AddPublisher"),
  ("internal/servers/srt/conn.go", "*conn.runRead", "AddReader"),
  ("internal/servers/rtmp/conn.go", "*conn.runRead", "AddReader"),
  ("internal/servers/rtmp/conn.go", "*conn.runPublish", "FindPathConf"),
  ("internal/servers/rtmp/conn.go", "*conn.runPublish", "AddPublisher"),
  ("internal/servers/rtsp/conn.go", "*conn.onDescribe", "Describe"),
  ("internal/servers/rtsp/session.go", "*session.onAnnounce", "FindPathConf"),
  ("internal/servers/rtsp/session.go", "*session.onSetup", "AddReader"),
  ("internal/servers/rtsp/session.go", "*session.onRecord", "AddPublisher"),
  ("internal/servers/hls/http_server.go", "*httpServer.onRequest", "FindPathConf"),
  ("internal/servers/webrtc/http_server.go", "*httpServer.checkAuthOutsideSession", "FindPathConf"),
  ("internal/servers/webrtc/http_server.go", "*httpServer.onWHIPOptions", "checkAuthOutsideSession"),
  ("internal/servers/webrtc/http_server.go", "*httpServer.onWHIPPost", "newSession"),
  ("internal/servers/webrtc/http_server.go", "*httpServer.onPage", "checkAuthOutsideSession"),
  ("internal/servers/moq/session.go", "*session.onSubscribeCatalog", "AddReader"),
  ("internal/servers/moq/session.go", "*session.onSubscribeTrack", "AddReader"),
  ("internal/servers/moq/session.go", "*session.onPublishCatalog", "AddPublisher"),
  ("internal/playback/server.go", "*Server.safeFindPathConf", "FindPathConf"),
  ("internal/playback/server.go", "*Server.doAuth", "Authenticate"),
  ("internal/playback/on_get.go", "*Server.onGet", "doAuth"),
  ("internal/playback/on_list.go", "*Server.onList", "doAuth")
]

/-- the index / slice expressions of the inventoried code are exactly the reviewed ones -/
theorem sites_inventory : Gen.C35.sites = expectedSites.map (·.1) := rfl

/-- the functions that call the authentication boundary are exactly the reviewed ones -/
theorem boundary_inventory : Gen.C35.boundary = expectedBoundary := rfl

/-- run-time sized `make`s in the inventoried code: none is sized by a client-declared length
(`len(req.Header)` is the size of an already parsed map; `1<<20` is a constant) -/
def expectedMakes : List (String × String × String) := [
  ("internal/protocols/httpp/handler_logger.go", "dumpRequest", "make([]string, 0, len(req.Header))"),
  ("internal/protocols/httpp/handler_exit_on_panic.go", "*handlerExitOnPanic.ServeHTTP", "make([]byte, 1<<20)")
]

/-- `close(ch)` sites of the MoQ session: `s.done` (once, deferred in `run`), `s.setupReceived` (inside
`processSetupMessage`, in the `default` branch of a `select` on the same channel, under `s.mutex` — the
check and the close are atomic; moving either is a new row), `streamClosed` (local channel),
`s.publishReady` (under the mutex, state-guarded) -/
def expectedCloses : List (String × String × String) := [
  ("internal/servers/moq/session.go", "*session.run", "close(s.done)"),
  ("internal/servers/moq/session.go", "*session.processSetupMessage", "close(s.setupReceived)"),
  ("internal/servers/moq/session.go", "*session.onSubscribeTrack", "close(streamClosed)"),
  ("internal/servers/moq/session.go", "*session.onPublishCatalog", "close(s.publishReady)")
]

/-- why a `panic(` in network-reachable code cannot fire -/
inductive PanicCover
  | stub                        -- unimplemented method of an adapter type, never called
  | model (name : String)       -- unreachable by the totality theorem of the named model
  | invariant (why : String)    -- local state invariant (read, not modelled)
  | library (why : String)      -- depends on a third-party contract or a local (non-input) error

def expectedPanics : List ((String × String × String) × PanicCover) := [
  (("internal/protocols/hls/to_stream.go", "ToStream", "!pathConf.UseAbsoluteTimestamp ; !avail ; !avail => panic(\"should not happen\")"), .invariant "NTP state machine: PacketNTP/AbsoluteTime is available once the state is ntpStateAvailable; exhaustive type switch"),
  (("internal/protocols/hls/to_stream.go", "ToStream", "!avail ; !avail ; avail ; err != nil => panic(\"should not happen\")"), .invariant "NTP state machine: PacketNTP/AbsoluteTime is available once the state is ntpStateAvailable; exhaustive type switch"),
  (("internal/protocols/rtsp/to_stream.go", "ToStream", "!pathConf.UseAbsoluteTimestamp ; !avail ; !avail => panic(\"should not happen\")"), .invariant "NTP state machine: PacketNTP/AbsoluteTime is available once the state is ntpStateAvailable; exhaustive type switch"),
  (("internal/protocols/udp/listener.go", "*Listener.Write", " => panic(\"unimplemented\")"), .stub),
  (("internal/protocols/udp/listener.go", "*Listener.LocalAddr", " => panic(\"unimplemented\")"), .stub),
  (("internal/protocols/udp/listener.go", "*Listener.RemoteAddr", " => panic(\"unimplemented\")"), .stub),
  (("internal/protocols/udp/listener.go", "*Listener.SetDeadline", " => panic(\"unimplemented\")"), .stub),
  (("internal/protocols/udp/listener.go", "*Listener.SetWriteDeadline", " => panic(\"unimplemented\")"), .stub),
  (("internal/protocols/unix/listener.go", "*Listener.Write", " => panic(\"unimplemented\")"), .stub),
  (("internal/protocols/unix/listener.go", "*Listener.LocalAddr", " => panic(\"unimplemented\")"), .stub),
  (("internal/protocols/unix/listener.go", "*Listener.RemoteAddr", " => panic(\"unimplemented\")"), .stub),
  (("internal/protocols/unix/listener.go", "*Listener.SetDeadline", " => panic(\"unimplemented\")"), .stub),
  (("internal/protocols/unix/listener.go", "*Listener.SetWriteDeadline", " => panic(\"unimplemented\")"), .stub),
  (("internal/protocols/webrtc/inbound_track.go", "*InboundTrack.stripTWCCExtension", "t.twccExtID == 0 || pkt.GetExtension(t.twccExtID) == nil ; err != nil => panic(err)"), .model "stripTWCC"),
  (("internal/protocols/webrtc/inbound_track.go", "*InboundTrack.start", "val == 1 ; err != nil => panic(err)"), .library "local initialisation error (rtpreceiver.Initialize / crypto/rand), not input dependent"),
  (("internal/protocols/webrtc/inbound_track.go", "*InboundTrack.start", "val == 1 ; err != nil ; err2 != nil ; err2 != nil => panic(err2)"), .library "rtcp.Unmarshal after pion/interceptor has already validated the packet (comment in the source) - NOT verified here"),
  (("internal/protocols/webrtc/inbound_track.go", "*InboundTrack.start", "ok ; t.track.Kind() == webrtc.RTPCodecTypeVideo ; err2 != nil ; err != nil => panic(err)"), .library "rtcp.Unmarshal after pion/interceptor has already validated the packet (comment in the source) - NOT verified here"),
  (("internal/protocols/webrtc/outbound_track.go", "*OutboundTrack.setup", "err != nil ; err != nil ; err2 != nil ; err2 != nil => panic(err2)"), .library "rtcp.Unmarshal after pion/interceptor has already validated the packet - NOT verified here"),
  (("internal/protocols/webrtc/to_stream.go", "ToStream", "channels > 1 ; !pathConf.UseAbsoluteTimestamp ; !avail ; !avail => panic(\"should not happen\")"), .invariant "NTP state machine: PacketNTP/AbsoluteTime is available once the state is ntpStateAvailable; exhaustive type switch")
]

/-- every `panic(` of internal/protocols and internal/servers, with the guards that precede it, is one
of the reviewed rows: a new panic, or a changed guard in front of one (e.g. the `GetExtension … == nil`
guard of stripTWCCExtension), breaks the build -/
theorem panics_inventory : Gen.C35.panics = expectedPanics.map (·.1) := rfl

theorem makes_inventory : Gen.C35.makes = expectedMakes := rfl
theorem closes_inventory : Gen.C35.closes = expectedCloses := rfl

/-- the three RTSP handlers start with the modelled guard + strip; httpp.Server installs the
empty-path filter around every router -/
theorem guards_in_place : Gen.C35.rtspGuards = true ∧ Gen.C35.filterBeforeRouter = true := by decide

example : srtUnmarshal (asc ['r','e','a','d',':','a',':','u',':','p',':','q']) =
    .ok { publish := false, path := asc ['a'], query := asc ['q'], user := asc ['u'], pass := asc ['p'] } := by
  decide +kernel
example : srtUnmarshal (asc ['#','!',':',':','r','=','x',',','m','=','p','u','b','l','i','s','h']) =
    .ok { publish := true, path := asc ['x'] } := by decide +kernel
example : srtUnmarshal (asc ['#','!',':',':']) = .err := by decide +kernel
example : hlsServe true (asc ['/','a','/']) [] [] [] [] = .ok (some (.index (asc ['a']))) := by decide +kernel
example : hlsServe true [] [] [] [] [] = .ok none := by decide +kernel
example : rtcRoute .get (asc ['/','a','/']) [] none none [] = .ok (.page (asc ['a']) false) := by decide +kernel

end MtxVerif.C35
