/-
C18 — Reader limits hold and readers are torn down when the stream goes away.  Property theorems
over the shared path state machine (Model/PathSM.lean), for every valid configuration and every
history of loop events (all interleavings of reader add/remove, publisher add/remove/replace, static
source ready/not-ready, timers, reload, close).
-/
import MtxVerif.Model.C18
import MtxVerif.Lemmas.C18Conf
import MtxVerif.Lemmas.C18Out

namespace MtxVerif.C18
open MtxVerif.PathSM

/-- every state the loop can be in: start state of a valid configuration, then any event history -/
def Reach (s : State) : Prop := ∃ c es, c.valid = true ∧ s = (run (init c) es).1

theorem reach_inv {s : State} (h : Reach s) : Inv s := by
  obtain ⟨c, es, hv, rfl⟩ := h
  exact inv_reach c hv es

theorem reach_step {s : State} (h : Reach s) (e : Event) : Reach (step s e).1 := by
  obtain ⟨c, es, hv, rfl⟩ := h
  refine ⟨c, es ++ [e], hv, ?_⟩
  have : ∀ (l : List Event) (s : State), (run s (l ++ [e])).1 = (step (run s l).1 e).1 := by
    intro l; induction l with
    | nil => intro s; rfl
    | cons x xs ih => intro s; exact ih _
  rw [this]

/-- **Limit.** A path never has more readers than its non-zero `maxReaders`
(`maxReaders` is not hot-reloadable: see `maxReaders_const`). -/
theorem readers_le_max {s : State} (h : Reach s) (hm : s.conf.maxReaders ≠ 0) :
    s.readers.length ≤ s.conf.maxReaders := (reach_inv h).rd.bound hm

/-- the limit the loop applies is the configured one, whatever was hot-reloaded meanwhile -/
theorem maxReaders_const (c : Conf) (hv : c.valid = true) (es : List Event) :
    (run (init c) es).1.conf.maxReaders = c.maxReaders := by
  have := run_conf es (init c) (inv_init c hv)
  rw [initW_conf] at this
  unfold ConfEq at this
  rw [this]

/-- the limit, stated on whole histories for the configured value -/
theorem history_le_max (c : Conf) (hv : c.valid = true) (es : List Event) (hm : c.maxReaders ≠ 0) :
    (run (init c) es).1.readers.length ≤ c.maxReaders := by
  have h := readers_le_max ⟨c, es, hv, rfl⟩
  rw [maxReaders_const c hv] at h
  exact h hm

/-- **Not counted twice.** The reader set never contains a reader twice. -/
theorem readers_nodup {s : State} (h : Reach s) : s.readers.Nodup := (reach_inv h).rd.nodup

/-- **Re-adding an attached reader** changes neither the reader set nor anything else the limit looks
at, and is answered with the stream (never with "maximum reader count reached"). -/
theorem readd_idempotent {s : State} (h : Reach s) (hc : s.closed = false) (rid r : Nat) (hr : r ∈ s.readers) :
    (step s (.addReader rid r)).1.readers = s.readers ∧
    ∃ sid, s.stream = some sid ∧ Out.reply rid (.stream sid) ∈ (step s (.addReader rid r)).2 ∧
      Out.reply rid .maxReaders ∉ (step s (.addReader rid r)).2 := by
  have hi := reach_inv h
  have hs : s.stream.isSome = true := hi.avail.r3 (List.ne_nil_of_mem hr)
  obtain ⟨sid, hsid⟩ := Option.isSome_iff_exists.mp hs
  have e : stepW (.addReader rid r) { s := s } =
      closeCheck (emit (.reply rid (.stream sid)) (upd (register r sid) { s := s })) := by
    unfold stepW
    rw [if_neg (by simp [hi.np]), if_neg (by simp [hc])]
    show closeCheck (doAddReader rid r { s := s }) = _
    unfold doAddReader
    rw [if_pos hs]
    unfold addReaderPost
    rw [if_pos hr]
    unfold replyReader
    simp only [hsid]
  unfold step
  rw [e]
  dsimp only
  refine ⟨by rw [closeCheck_s]; rfl, sid, hsid, ?_, ?_⟩
  · exact mem_of_pre (pre_closeCheck List.prefix_rfl) (by simp)
  · unfold closeCheck; split <;> simp

/-- **Readers need a stream.** Whenever the path has no stream it has no readers. -/
theorem no_stream_no_readers {s : State} (h : Reach s) (hs : s.stream = none) : s.readers = [] :=
  ((reach_inv h).no_stream hs).1

/-- **Teardown.** Any step after which the stream that was up before is no longer the path's stream
(it became unavailable, or a new stream object took its place) has called `Close()` on every reader
that was attached before the step ... -/
theorem teardown {s : State} (h : Reach s) (e : Event) (sid : Nat) (hs : s.stream = some sid)
    (hch : (step s e).1.stream ≠ some sid) :
    ∀ r ∈ s.readers, Out.readerClosed r ∈ (step s e).2 :=
  teardown_stepW e { s := s } (reach_inv h) sid hs hch

/-- ... and if the path is left without a stream, every reader has been detached. -/
theorem teardown_detached {s : State} (h : Reach s) (e : Event) (hn : (step s e).1.stream = none) :
    (step s e).1.readers = [] :=
  no_stream_no_readers (reach_step h e) hn

theorem closed_clean {s : State} (h : Reach s) (hc : s.closed = true) : s.readers = [] ∧ s.stream = none :=
  ⟨((reach_inv h).cl hc).2.1, ((reach_inv h).cl hc).1⟩

/-- **Path termination.** Destroying the path (`close`) calls `Close()` on every attached reader —
also on an alwaysAvailable path without a publisher — and leaves neither reader nor stream. -/
theorem close_closes_all_readers {s : State} (h : Reach s) (hc : s.closed = false) :
    (∀ r ∈ s.readers, Out.readerClosed r ∈ (step s .close).2) ∧
    (step s .close).1.readers = [] ∧ (step s .close).1.stream = none := by
  have hi := reach_inv h
  have hcl : (step s .close).1.closed = true := by
    unfold step stepW
    rw [if_neg (by simp [hi.np]), if_neg (by simp [hc])]
    show (doClose _).s.closed = true
    rw [doClose_s]
  have hclean := closed_clean (reach_step h .close) hcl
  refine ⟨?_, hclean.1, hclean.2⟩
  intro r hr
  obtain ⟨sid, hsid⟩ := Option.isSome_iff_exists.mp (hi.avail.r3 (List.ne_nil_of_mem hr))
  exact teardown h .close sid hsid (by rw [hclean.2]; simp) r hr

/-- The model never reaches one of the Go panics it makes explicit (nil hook call, double
`Handler.Start`, `Handler.Stop` while stopped, failed type assertion, "should not happen"). -/
theorem no_panic {s : State} (h : Reach s) : s.panicked = false := (reach_inv h).np

def cPub : Conf := { kind := .publisher, overridePublisher := true, maxReaders := 2 }

/-- publisher, two readers admitted, third refused, re-add accepted, replacement closes both. -/
example : (run (init cPub)
    [.addPublisher 1 true, .addReader 1 10, .addReader 2 11, .addReader 3 12, .addReader 4 10,
     .addPublisher 2 true]).2 =
  [[.hook .avail true, .hook .online true, .pathReady, .pubReply (.ok 0)],
   [.reply 1 (.stream 0)], [.reply 2 (.stream 0)], [.reply 3 .maxReaders], [.reply 4 (.stream 0)],
   [.pubClosed 1, .pathNotReady, .hook .online false, .readerClosed 10, .readerClosed 11, .hook .avail false,
    .hook .avail true, .hook .online true, .pathReady, .pubReply (.ok 1)]] := by decide

/-- a failed sub-stream initialisation leaves no stream behind (regression for finding `subinit-fail`) -/
example : (run (init cPub) [.addPublisher 1 false]).1.stream = none ∧
    (run (init cPub) [.addPublisher 1 false]).2 =
      [[.hook .avail true, .hook .online true, .pathReady, .pathNotReady, .hook .online false, .hook .avail false,
        .pubReply .subErr]] := by decide

example : cPub.valid = true := by decide

end MtxVerif.C18
