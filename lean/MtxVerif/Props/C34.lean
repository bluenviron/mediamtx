/-
C34 — client-supplied descriptors parse faithfully.  Property theorems about `Model/C34`.
-/
import MtxVerif.Model.C34

namespace MtxVerif.C34

-- found at once; the search otherwise walks the order classes of `UInt8` at every use
local instance : LawfulBEq UInt8 := instLawfulBEq

theorem noByte_nil (c : UInt8) : noByte c [] = true := rfl

theorem noByte_cons (c x : UInt8) (s : Bytes) :
    noByte c (x :: s) = true ↔ x ≠ c ∧ noByte c s = true := by
  simp only [noByte, List.contains_cons, Bool.not_eq_true', Bool.or_eq_false_iff, beq_eq_false_iff_ne, ne_eq]
  rw [eq_comm]

theorem noByte_append (c : UInt8) (a b : Bytes) :
    noByte c (a ++ b) = true ↔ noByte c a = true ∧ noByte c b = true := by
  induction a with
  | nil => simp [noByte_nil]
  | cons x a ih => simp only [List.cons_append, noByte_cons, ih, and_assoc]

theorem splitB_noSep (sep : UInt8) (a : Bytes) (h : noByte sep a = true) : splitB sep a = [a] := by
  induction a with
  | nil => rfl
  | cons c a ih =>
    obtain ⟨hc, ha⟩ := (noByte_cons _ _ _).mp h
    simp only [splitB, if_neg hc, ih ha, consHead]

theorem splitB_append (sep : UInt8) (a r : Bytes) (h : noByte sep a = true) :
    splitB sep (a ++ sep :: r) = a :: splitB sep r := by
  induction a with
  | nil => simp only [List.nil_append, splitB, if_true]
  | cons c a ih =>
    obtain ⟨hc, ha⟩ := (noByte_cons _ _ _).mp h
    simp only [List.cons_append, splitB, if_neg hc, ih ha, consHead]

/-- `strings.Split(strings.Join(parts, sep), sep) = parts` when no part contains the separator -/
theorem splitB_joinB (sep : UInt8) (parts : List Bytes) (hne : parts ≠ [])
    (h : parts.all (noByte sep) = true) : splitB sep (joinB sep parts) = parts := by
  induction parts with
  | nil => exact absurd rfl hne
  | cons a rest ih =>
    simp only [List.all_cons, Bool.and_eq_true] at h
    cases rest with
    | nil => exact splitB_noSep sep a h.1
    | cons b rest => rw [joinB, splitB_append sep a _ h.1, ih (List.cons_ne_nil _ _) h.2]

theorem cutB_append (sep : UInt8) (k v : Bytes) (h : noByte sep k = true) :
    cutB sep (k ++ sep :: v) = some (k, v) := by
  induction k with
  | nil => simp only [List.nil_append, cutB, if_true]
  | cons c k ih =>
    obtain ⟨hc, hk⟩ := (noByte_cons _ _ _).mp h
    simp only [List.cons_append, cutB, if_neg hc, ih hk]

theorem cutB_none (sep : UInt8) (s : Bytes) (h : noByte sep s = true) : cutB sep s = none := by
  induction s with
  | nil => rfl
  | cons c s ih =>
    obtain ⟨hc, hs⟩ := (noByte_cons _ _ _).mp h
    simp only [cutB, if_neg hc, ih hs]

theorem trimSuffix_append (suf s : Bytes) : trimSuffix suf (s ++ suf) = s := by
  have : suf.isSuffixOf (s ++ suf) = true := List.isSuffixOf_iff_suffix.mpr (List.suffix_append s suf)
  simp [trimSuffix, this]

theorem trimSuffix_eq_self (suf s : Bytes) (hne : suf ≠ []) :
    trimSuffix suf s = s ↔ suf.isSuffixOf s = false := by
  unfold trimSuffix
  cases h : suf.isSuffixOf s with
  | false => simp
  | true =>
    have hl := (List.isSuffixOf_iff_suffix.mp h).length_le
    have : 0 < suf.length := List.length_pos_iff.mpr hne
    simp only [if_true, Bool.true_eq_false, iff_false]
    intro he
    have := congrArg List.length he
    rw [List.length_take] at this
    omega

/-! ### SRT stream id, custom syntax `action:pathname[:user:pass][:query]` -/

theorem action_ne_std (p : Bool) (rest : Bytes) : kStd.isPrefixOf (action p ++ rest) = false := by
  cases p <;> rfl

theorem mkCustom_action (p : Bool) (path query user pass : Bytes) :
    mkCustom (action p) path query user pass =
      .ok { publish := p, path := path, query := query, user := user, pass := pass } := by
  cases p <;> rfl

theorem split_render (d : CDesc) (h : d.sepFree = true) : splitB 58 d.render = d.parts := by
  have ha : noByte 58 (action d.publish) = true := by cases d.publish <;> rfl
  exact splitB_joinB 58 d.parts (List.cons_ne_nil _ _) (Bool.and_eq_true_iff.mpr ⟨ha, h⟩)

def CDesc.mapLast (f : Bytes → Bytes) (d : CDesc) : CDesc :=
  match d.query, d.creds with
  | some q, _ => { d with query := some (f q) }
  | none, some (u, w) => { d with creds := some (u, f w) }
  | none, none => { d with path := f d.path }

theorem customParts_parts (d : CDesc) : customParts d.parts = .ok (d.mapLast trimFb).sid := by
  rcases d with ⟨pub, path, _ | ⟨u, w⟩, _ | q⟩ <;> exact mkCustom_action pub _ _ _ _

theorem sid_mapLast (f : Bytes → Bytes) (d : CDesc) : (d.mapLast f).sid = d.sid ↔ f d.last = d.last := by
  rcases d with ⟨pub, path, _ | ⟨u, w⟩, _ | q⟩ <;>
    simp [CDesc.mapLast, CDesc.sid, CDesc.last, CDesc.fields, CDesc.tailParts]

theorem render_mapLast_append (d : CDesc) (s : Bytes) : (d.mapLast (· ++ s)).render = d.render ++ s := by
  rcases d with ⟨pub, path, _ | ⟨u, w⟩, _ | q⟩ <;>
    simp [CDesc.mapLast, CDesc.render, CDesc.parts, CDesc.tailParts, joinB]

theorem sepFree_mapLast_append (d : CDesc) (s : Bytes) (hs : noByte 58 s = true) (h : d.sepFree = true) :
    (d.mapLast (· ++ s)).sepFree = true := by
  rcases d with ⟨pub, path, _ | ⟨u, w⟩, _ | q⟩ <;>
    simp_all [CDesc.mapLast, CDesc.sepFree, CDesc.fields, CDesc.tailParts, noByte_append]

theorem mapLast_mapLast (f g : Bytes → Bytes) (d : CDesc) (h : ∀ x, f (g x) = x) : (d.mapLast g).mapLast f = d := by
  rcases d with ⟨pub, path, _ | ⟨u, w⟩, _ | q⟩ <;> simp only [CDesc.mapLast, h]

/-- **Custom syntax, exact result.**  For every descriptor whose fields contain no `:` the parser
returns the descriptor with one trailing `#feedbackplay` removed from its last field. -/
theorem custom_parse (d : CDesc) (hsep : d.sepFree = true) :
    unmarshal d.render = .ok (d.mapLast trimFb).sid := by
  have hstd : kStd.isPrefixOf d.render = false := action_ne_std _ _
  rw [unmarshal, hstd, if_neg Bool.false_ne_true, split_render d hsep, customParts_parts]

/-- the `#feedbackplay` side condition is exact: a last field that ends in it is NOT read back -/
theorem custom_roundtrip_iff (d : CDesc) (hsep : d.sepFree = true) :
    unmarshal d.render = .ok d.sid ↔ kFeedback.isSuffixOf d.last = false := by
  rw [custom_parse d hsep, Res.ok.injEq, sid_mapLast, trimFb, trimSuffix_eq_self _ _ (by decide)]

/-- **`#feedbackplay` suffix rule** (issue 5414): a stream id followed by `#feedbackplay` yields the
same action, path, credentials and query as the stream id alone — for EVERY `:`-free descriptor. -/
theorem custom_feedback_suffix (d : CDesc) (hsep : d.sepFree = true) :
    unmarshal (d.render ++ kFeedback) = .ok d.sid := by
  rw [← render_mapLast_append, custom_parse _ (sepFree_mapLast_append d _ (by decide) hsep),
    mapLast_mapLast trimFb _ d (trimSuffix_append kFeedback)]

theorem mkCustom_cases (a p q u w : Bytes) :
    ((a = kRead ∨ a = kPublish) ∧ ∃ s, mkCustom a p q u w = .ok s) ∨
      (¬ (a = kRead ∨ a = kPublish) ∧ mkCustom a p q u w = .err .format) := by
  unfold mkCustom
  by_cases h1 : a = kRead
  · exact .inl ⟨.inl h1, _, if_pos h1⟩
  · by_cases h2 : a = kPublish
    · exact .inl ⟨.inr h2, _, by rw [if_neg h1, if_pos h2]⟩
    · exact .inr ⟨by simp [h1, h2], by rw [if_neg h1, if_neg h2]⟩

theorem customParts_cases (parts : List Bytes) :
    ((2 ≤ parts.length ∧ parts.length ≤ 5 ∧ (parts.head? = some kRead ∨ parts.head? = some kPublish)) ∧
        ∃ s, customParts parts = .ok s) ∨
      (¬ (2 ≤ parts.length ∧ parts.length ≤ 5 ∧ (parts.head? = some kRead ∨ parts.head? = some kPublish)) ∧
        customParts parts = .err .format) := by
  match parts with
  | [] | [_] | _ :: _ :: _ :: _ :: _ :: _ :: _ => exact .inr ⟨by simp, rfl⟩
  | [a, _] | [a, _, _] | [a, _, _, _] | [a, _, _, _, _] =>
    exact (mkCustom_cases a _ _ _ _).imp
      (fun h => ⟨⟨by simp, by simp, h.1.imp (congrArg some) (congrArg some)⟩, h.2⟩)
      (fun h => ⟨fun c => h.1 (c.2.2.imp Option.some.inj Option.some.inj), h.2⟩)

/-- error cases of the custom syntax: fewer than 2 or more than 5 `:`-separated parts, or an action
other than `read` / `publish` — and nothing else — is rejected -/
theorem custom_ok_iff (raw : Bytes) (hstd : kStd.isPrefixOf raw = false) :
    (∃ s, unmarshal raw = .ok s) ↔
      2 ≤ (splitB 58 raw).length ∧ (splitB 58 raw).length ≤ 5 ∧
        ((splitB 58 raw).head? = some kRead ∨ (splitB 58 raw).head? = some kPublish) := by
  rw [unmarshal, hstd, if_neg Bool.false_ne_true]
  rcases customParts_cases (splitB 58 raw) with ⟨hc, hs⟩ | ⟨hc, he⟩
  · exact ⟨fun _ => hc, fun _ => hs⟩
  · exact ⟨fun ⟨s, hs⟩ => (nomatch he ▸ hs), fun h => absurd h hc⟩

/-- every rejection of the custom syntax is the format error -/
theorem custom_err_format (raw : Bytes) (hstd : kStd.isPrefixOf raw = false) (e : Err)
    (h : unmarshal raw = .err e) : e = .format := by
  rw [unmarshal, hstd, if_neg Bool.false_ne_true] at h
  rcases customParts_cases (splitB 58 raw) with ⟨_, s, hs⟩ | ⟨_, he⟩
  · rw [hs] at h; cases h
  · rw [he] at h; injection h with h; exact h.symm

/-! ### SRT stream id, standard syntax `#!::key=value,…` -/

theorem isPrefixOf_append (p r : Bytes) : p.isPrefixOf (p ++ r) = true :=
  List.isPrefixOf_iff_prefix.mpr (List.prefix_append p r)

theorem stdItem_render (s : SID) (k v : Bytes) (hk : noByte 61 k = true) :
    stdItem s (renderKV (k, v)) = applyKV s k v := by
  simp only [stdItem, renderKV, cutB_append 61 k v hk]

/-- an item without `=` is rejected -/
theorem stdItem_noEq (s : SID) (kv : Bytes) (h : noByte 61 kv = true) :
    stdItem s kv = .err .invalidValue := by
  simp only [stdItem, cutB_none 61 kv h]

theorem stdFold_render (s : SID) (kvs : List (Bytes × Bytes)) (h : stdSepFree kvs = true) :
    stdFold s (kvs.map renderKV) = applyAll s kvs := by
  induction kvs generalizing s with
  | nil => rfl
  | cons kv rest ih =>
    simp only [stdSepFree, List.all_cons, Bool.and_eq_true] at h
    simp only [List.map_cons, stdFold, applyAll, stdItem_render s kv.1 kv.2 h.1.1.1]
    cases applyKV s kv.1 kv.2 with
    | ok s' => exact ih s' h.2
    | err e => rfl

/-- **Standard syntax, exact result.**  For every non-empty key/value list whose keys avoid `=` and
`,` and whose values avoid `,` (values may contain `=`), the parser applies exactly the listed items:
`u` user, `r` path, `s` password, `m` mode (`request`/`publish`, anything else is an error), every
other key ignored, later items override earlier ones, no query. -/
theorem std_parse (kvs : List (Bytes × Bytes)) (hne : kvs ≠ []) (h : stdSepFree kvs = true) :
    unmarshal (renderStd kvs) = applyAll {} kvs := by
  have hall : (kvs.map renderKV).all (noByte 44) = true := by
    simp only [List.all_map, List.all_eq_true, Function.comp, renderKV]
    intro kv hkv
    have := List.all_eq_true.mp h kv hkv
    simp only [Bool.and_eq_true] at this
    exact (noByte_append _ _ _).mpr ⟨this.1.2, (noByte_cons _ _ _).mpr ⟨by decide, this.2⟩⟩
  rw [unmarshal, renderStd, isPrefixOf_append, if_pos rfl, List.drop_left' (l₁ := kStd) (i := 4) rfl,
    splitB_joinB 44 _ (by simpa using hne) hall, stdFold_render {} kvs h]

/-- **Standard syntax, round trip** of the documented descriptor `#!::m=…,r=…,u=…,s=…`: exactly the
action, path and credentials come back whenever path, user and password contain no `,`
(the standard syntax carries no query). -/
theorem std_roundtrip (s : SID) (hq : s.query = [])
    (hp : noByte 44 s.path = true) (hu : noByte 44 s.user = true) (hw : noByte 44 s.pass = true) :
    unmarshal (renderStd (stdDesc s)) = .ok s := by
  obtain ⟨pub, path, query, user, pass⟩ := s
  subst hq
  have hm : noByte 44 (if pub then kPublish else kRequest) = true := by cases pub <;> rfl
  have hsep : stdSepFree (stdDesc ⟨pub, path, [], user, pass⟩) = true := by
    simp only [stdSepFree, stdDesc, List.all_cons, List.all_nil, hp, hu, hw, hm]
    rfl
  rw [std_parse (stdDesc _) (List.cons_ne_nil _ _) hsep]
  cases pub <;> rfl

/-- keys other than `u`, `r`, `s`, `m` (e.g. `h`, `t`, vendor keys — issue 3701) change nothing -/
theorem applyKV_ignored (s : SID) (k v : Bytes)
    (h : k ≠ [117] ∧ k ≠ [114] ∧ k ≠ [115] ∧ k ≠ [109]) : applyKV s k v = .ok s := by
  simp only [applyKV, if_neg h.1, if_neg h.2.1, if_neg h.2.2.1, if_neg h.2.2.2]

/-- a mode other than `request` / `publish` is rejected -/
theorem applyKV_badMode (s : SID) (v : Bytes) (h : v ≠ kRequest ∧ v ≠ kPublish) :
    applyKV s [109] v = .err .badMode := by
  simp [applyKV, h.1, h.2]

-- `read:mypath:myuser:mypass:myquery`
example : unmarshal (asc ['r','e','a','d',':','p',':','u',':','w',':','q']) =
    .ok { publish := false, path := asc ['p'], query := asc ['q'], user := asc ['u'], pass := asc ['w'] } := by
  decide
-- a `:` inside the password shifts the fields (side condition `sepFree` is needed)
example : unmarshal (CDesc.render ⟨true, asc ['p'], some (asc ['u'], asc ['a',':','b']), none⟩) =
    .ok { publish := true, path := asc ['p'], query := asc ['b'], user := asc ['u'], pass := asc ['a'] } := by
  decide
-- `#!::` alone is an error (strings.Split("", ",") = [""])
example : unmarshal kStd = .err .invalidValue := by decide
-- a `,` inside a value cuts it and makes the remainder an item of its own
example : unmarshal (renderStd [([114], asc ['a',',','b'])]) = .err .invalidValue := by decide
example : (CDesc.mk true (asc ['p']) (some (asc ['u'], asc ['w'])) (some (asc ['q']))).sepFree = true := by
  decide

/-! ### WHIP/WHEP Link header -/

/-- **quote/escape lemma**: reading a quoted credential stops at the closing quote that was written,
for EVERY byte string (including ones made of quotes and backslashes) and every continuation. -/
theorem readQ_quote (s acc rest : Bytes) :
    readQ false acc (quote s ++ 34 :: rest) = some (acc ++ s, rest) := by
  induction s generalizing acc with
  | nil => simp [quote, readQ]
  | cons c s ih =>
    by_cases h1 : c = 92
    · subst h1; simp [quote, readQ, ih]
    · by_cases h2 : c = 34
      · subst h2; simp [quote, readQ, ih]
      · simp [quote, readQ, h1, h2, ih]

theorem readQuoted_quote (s rest : Bytes) :
    readQuoted (34 :: (quote s ++ 34 :: rest)) = some (s, rest) := by
  simp [readQuoted, readQ_quote]

theorem cutPrefix_append (p r : Bytes) : cutPrefix p (p ++ r) = some r := by
  simp [cutPrefix, isPrefixOf_append]

theorem cutPrefix_self (p : Bytes) : cutPrefix p p = some [] := by
  simpa using cutPrefix_append p []

theorem isPrefixOf_of_append_cons (p u r : Bytes) (c0 : UInt8) (hn : noByte c0 p = true)
    (h : p.isPrefixOf (u ++ c0 :: r) = true) : p.isPrefixOf u = true := by
  induction p generalizing u with
  | nil => rfl
  | cons x xs ih =>
    obtain ⟨hx, hxs⟩ := (noByte_cons _ _ _).mp hn
    cases u with
    | nil => simp [List.isPrefixOf, hx] at h
    | cons y u =>
      simp only [List.cons_append, List.isPrefixOf, Bool.and_eq_true] at h ⊢
      exact ⟨h.1, ih u hxs h.2⟩

/-- `strings.Cut(url + sep + t, sep)` cuts at the separator that was written when `url` does not contain
`sep`, for a separator whose first byte does not occur in it again: then no occurrence of `sep` can begin
in `url` and end beyond it. -/
theorem cutS_append (c0 : UInt8) (sepT url t : Bytes) (hn : noByte c0 sepT = true)
    (h : hasInfix (c0 :: sepT) url = false) :
    cutS (c0 :: sepT) (url ++ c0 :: (sepT ++ t)) = some (url, t) := by
  induction url with
  | nil => simp [cutS, List.isPrefixOf]
  | cons y u ih =>
    simp only [hasInfix, Bool.or_eq_false_iff] at h
    have hnp : (c0 :: sepT).isPrefixOf (y :: (u ++ c0 :: (sepT ++ t))) = false := by
      apply Bool.eq_false_iff.mpr
      intro hp
      simp only [List.isPrefixOf, Bool.and_eq_true] at hp
      have := isPrefixOf_of_append_cons sepT u _ c0 hn hp.2
      simp [List.isPrefixOf, hp.1, this] at h
    simp only [List.cons_append, cutS, hnp, ih h.2, Bool.false_eq_true, if_false]

theorem unmarshal1_rendered (url t : Bytes) (h : hasInfix kRelSep url = false) :
    unmarshal1 (60 :: (url ++ (kRelSep ++ t))) =
      if t = [] then some { url := url, user := [], cred := none } else readCreds url t := by
  have : cutS kRelSep (url ++ (kRelSep ++ t)) = some (url, t) := cutS_append 62 kRelSepTail url t (by decide) h
  have hc : cutPrefix [60] (60 :: (url ++ (kRelSep ++ t))) = some (url ++ (kRelSep ++ t)) :=
    cutPrefix_append [60] _
  simp only [unmarshal1, hc, this]

theorem readCreds_rendered (url user c : Bytes) (hu : user ≠ []) :
    readCreds url (kUsername ++ (34 :: (quote user ++ 34 :: (kCredential ++ (34 :: (quote c ++ 34 :: kCredType))))))
      = some { url := url, user := user, cred := some c } := by
  simp only [readCreds, cutPrefix_append, readQuoted_quote, hu, if_false, cutPrefix_self, if_true]

/-- one entry: what `LinkHeaderMarshal` writes, `LinkHeaderUnmarshal` reads back -/
theorem unmarshal1_marshal1 (s : IceIn) (h : s.wf = true) :
    ∃ hd, marshal1 s = some hd ∧ unmarshal1 hd = some s.back := by
  obtain ⟨_ | ⟨url, urls⟩, user, cred⟩ := s
  · simp [IceIn.wf] at h
  simp only [IceIn.wf, Bool.and_eq_true, Bool.not_eq_true', Bool.or_eq_true, decide_eq_true_eq] at h
  by_cases hu : user = []
  · subst hu
    exact ⟨60 :: (url ++ (kRelSep ++ [])), by simp [marshal1], by rw [unmarshal1_rendered url [] h.1]; rfl⟩
  · obtain ⟨c, rfl⟩ : ∃ c, cred = some c := by simpa [hu, Option.isSome_iff_exists] using h.2
    refine ⟨60 :: (url ++ (kRelSep ++ (kUsername ++ (34 :: (quote user ++ 34 :: (kCredential ++
      (34 :: (quote c ++ 34 :: kCredType)))))))), by simp [marshal1, hu], ?_⟩
    rw [unmarshal1_rendered url _ h.1, if_neg (by simp [kUsername]), readCreds_rendered url user c hu]
    simp [IceIn.back, hu]

/-- **Link header round trip.**  Whatever `LinkHeaderMarshal` writes for a list of ICE servers,
`LinkHeaderUnmarshal` reads back entry by entry: same URL, and — for ALL username / credential byte
strings — the same username and credential.  Only side conditions: the URL does not contain the
literal `>; rel="ice-server"`; an entry with an EMPTY username is written without credentials (and so
comes back without). -/
theorem unmarshal_marshal (l : List IceIn) (h : ∀ s ∈ l, s.wf = true) :
    ∃ hs, marshal l = some hs ∧ unmarshalL hs = some (l.map IceIn.back) := by
  induction l with
  | nil => exact ⟨[], rfl, rfl⟩
  | cons s rest ih =>
    obtain ⟨hd, h1, h2⟩ := unmarshal1_marshal1 s (h s List.mem_cons_self)
    obtain ⟨tl, h3, h4⟩ := ih (fun x hx => h x (List.mem_cons_of_mem _ hx))
    exact ⟨hd :: tl, by simp only [marshal, h1, h3], by simp only [unmarshalL, h2, h4, List.map_cons]⟩

/-- **Credentials are read back unchanged for any string** (the property's wording): any non-empty
username and any credential, whatever bytes they contain. -/
theorem credentials_roundtrip (url user cred : Bytes) (more : List Bytes)
    (hurl : hasInfix kRelSep url = false) (hu : user ≠ []) :
    ∃ hd, marshal1 ⟨url :: more, user, some cred⟩ = some hd ∧
      unmarshal1 hd = some ⟨url, user, some cred⟩ := by
  simpa [IceIn.back, hu] using unmarshal1_marshal1 ⟨url :: more, user, some cred⟩ (by simp [IceIn.wf, hurl])

/-- the URL side condition is exact: a URL containing the separator is cut short -/
theorem cutS_infix (sep s : Bytes) (h : hasInfix sep s = true) (t : Bytes) :
    ∃ a b, cutS sep (s ++ t) = some (a, b) ∧ a.length + sep.length ≤ s.length := by
  induction s with
  | nil =>
    obtain rfl : sep = [] := List.isEmpty_iff.mp h
    exact ⟨[], t, by cases t <;> rfl, Nat.le_refl _⟩
  | cons c s ih =>
    have h := Bool.or_eq_true _ _ ▸ h
    -- the separator occurs in `c :: s`, so it is not longer
    have hlen : sep.length ≤ s.length + 1 := by
      rcases h with h | h
      · exact (List.isPrefixOf_iff_prefix.mp h).length_le
      · obtain ⟨_, _, _, h2⟩ := ih h
        omega
    rw [List.cons_append, cutS]
    split
    · exact ⟨[], _, rfl, by rw [List.length_nil, List.length_cons]; omega⟩
    · rename_i hp
      rcases h with h | h
      · exact absurd (List.isPrefixOf_iff_prefix.mpr ((List.isPrefixOf_iff_prefix.mp h).trans
          (List.prefix_append (c :: s) t))) hp
      · obtain ⟨a, b, h1, h2⟩ := ih h
        exact ⟨c :: a, b, by rw [h1], by rw [List.length_cons, List.length_cons]; omega⟩

/-- where Go panics, the model says so: no URL, or a username with a non-string credential -/
theorem marshal1_panics (s : IceIn) :
    marshal1 s = none ↔ s.urls = [] ∨ (s.user ≠ [] ∧ s.cred = none) := by
  obtain ⟨_ | ⟨u, us⟩, user, cred⟩ := s
  · simp [marshal1]
  · by_cases hu : user = []
    · simp [marshal1, hu]
    · cases cred <;> simp [marshal1, hu]

-- tests: hostile credentials made of quotes and backslashes
example : (marshal1 ⟨[asc ['s']], asc ['"','\\'], some (asc ['\\','\\','"'])⟩).bind unmarshal1 =
    some ⟨asc ['s'], asc ['"','\\'], some (asc ['\\','\\','"'])⟩ := by decide
-- empty username: credentials are not written
example : (marshal1 ⟨[asc ['s']], [], some (asc ['x'])⟩).bind unmarshal1 = some ⟨asc ['s'], [], none⟩ := by
  decide
example : (IceIn.mk [asc ['s','t','u','n',':','h']] (asc ['u']) (some [])).wf = true := by decide

/-! ### HTTP `Credentials` -/

theorem splitB_length (sep : UInt8) (s : Bytes) : (splitB sep s).length = countB sep s + 1 := by
  induction s with
  | nil => rfl
  | cons c s ih =>
    unfold splitB
    by_cases h : c = sep
    · simp [h, ih, countB]
    · have hc : countB sep (c :: s) = countB sep s := by simp [countB, h]
      rw [if_neg h, hc, ← ih]
      cases hs : splitB sep s with
      | nil => simp [hs] at ih
      | cons a b => rfl

theorem firstBearer_append (pre l : List Bytes) (h : ∀ x ∈ pre, kBearer.isPrefixOf x = false) :
    firstBearer (pre ++ l) = firstBearer l := by
  induction pre with
  | nil => rfl
  | cons x pre ih =>
    rw [List.cons_append, firstBearer, h x List.mem_cons_self, if_neg Bool.false_ne_true]
    exact ih (fun y hy => h y (List.mem_cons_of_mem _ hy))

theorem firstBearer_cons (p : Bytes) (post : List Bytes) : firstBearer ((kBearer ++ p) :: post) = some p := by
  simp [firstBearer, isPrefixOf_append, List.drop_left' (l₁ := kBearer) (i := 7) rfl]

/-- **`Bearer user:pass`**: the first header value starting with `Bearer ` decides; a payload
`user:pass` with `:`-free user and password yields exactly these (whatever the other headers and the
Basic decoding say). -/
theorem bearer_userpass (pre post : List Bytes) (u w : Bytes) (b64 : Option Bytes)
    (h : ∀ x ∈ pre, kBearer.isPrefixOf x = false)
    (hu : noByte 58 u = true) (hw : noByte 58 w = true) :
    credentials (pre ++ (kBearer ++ (u ++ 58 :: w)) :: post) b64 = { user := u, pass := w } := by
  simp only [credentials, firstBearer_append pre _ h, firstBearer_cons, fromBearer, splitB_append 58 u w hu,
    splitB_noSep 58 w hw]

theorem fromBearer_token (p : Bytes) (h : countB 58 p ≠ 1) : fromBearer p = { token := p } := by
  have hl : (splitB 58 p).length ≠ 2 := by rw [splitB_length]; omega
  unfold fromBearer
  split
  · rename_i u w heq; rw [heq] at hl; exact absurd rfl hl
  · rfl

/-- **bearer token**: a payload that does not contain exactly one `:` is the token, byte for byte
(JWTs contain none; `a:b:c` or the empty payload are tokens too) -/
theorem bearer_token (pre post : List Bytes) (p : Bytes) (b64 : Option Bytes)
    (h : ∀ x ∈ pre, kBearer.isPrefixOf x = false) (hp : countB 58 p ≠ 1) :
    credentials (pre ++ (kBearer ++ p) :: post) b64 = { token := p } := by
  simp only [credentials, firstBearer_append pre _ h, firstBearer_cons, fromBearer_token p hp]

/-- the two Bearer cases are exhaustive: exactly one `:` means `user:pass` with `:`-free parts -/
theorem count_one_decomp (p : Bytes) (h : countB 58 p = 1) :
    ∃ u w, p = u ++ 58 :: w ∧ noByte 58 u = true ∧ noByte 58 w = true := by
  induction p with
  | nil => simp [countB] at h
  | cons c p ih =>
    by_cases hc : c = 58
    · subst hc
      refine ⟨[], p, rfl, noByte_nil _, ?_⟩
      have : countB 58 p = 0 := by simpa [countB] using h
      simpa [noByte, countB, List.count_eq_zero] using this
    · have : countB 58 p = 1 := by simpa [countB, List.count_cons, hc] using h
      obtain ⟨u, w, h1, h2, h3⟩ := ih this
      exact ⟨c :: u, w, by rw [h1]; rfl, (noByte_cons _ _ _).mpr ⟨hc, h2⟩, h3⟩

/-- **which header wins**: as soon as some value starts with `Bearer `, the first such value alone
determines the result — a Basic header, even an earlier one, is not consulted -/
theorem bearer_wins (hdrs : List Bytes) (p : Bytes) (b64 : Option Bytes)
    (h : firstBearer hdrs = some p) : credentials hdrs b64 = fromBearer p := by
  simp only [credentials, h]

theorem firstBearer_none (hdrs : List Bytes) (h : ∀ x ∈ hdrs, kBearer.isPrefixOf x = false) :
    firstBearer hdrs = none := by
  simpa [firstBearer] using firstBearer_append hdrs [] h

/-- **Basic**: without any `Bearer ` value, the FIRST header value is decoded: `Basic ` in any letter
case, base64 (oracle) of `user:pass`; the user is everything before the first `:`, the password
everything after it (so a `:`-free user and ANY password come back exactly). -/
theorem basic_roundtrip (pfx enc : Bytes) (rest : List Bytes) (u w : Bytes)
    (hpfx : pfx.map lowerB = kBasicLower)
    (hnb : ∀ x ∈ (pfx ++ enc) :: rest, kBearer.isPrefixOf x = false)
    (hu : noByte 58 u = true) :
    credentials ((pfx ++ enc) :: rest) (some (u ++ 58 :: w)) = { user := u, pass := w } := by
  have hlen : pfx.length = 6 := by simpa [kBasicLower] using congrArg List.length hpfx
  have hb : hasBasicPrefix (pfx ++ enc) = true := by
    simp only [hasBasicPrefix, Bool.and_eq_true, decide_eq_true_eq, List.length_append, beq_iff_eq,
      List.take_left' hlen]
    exact ⟨by omega, hpfx⟩
  simp only [credentials, firstBearer_none _ hnb, basicAuth, hb, if_true, cutB_append 58 u w hu]

/-- a Basic header that is not the first value, an undecodable one, or one without `:` yields nothing -/
theorem basic_nothing (h : Bytes) (rest : List Bytes) (b64 : Option Bytes)
    (hnb : ∀ x ∈ h :: rest, kBearer.isPrefixOf x = false)
    (hno : hasBasicPrefix h = false ∨ b64 = none ∨ ∃ d, b64 = some d ∧ noByte 58 d = true) :
    credentials (h :: rest) b64 = {} := by
  simp only [credentials, firstBearer_none _ hnb, basicAuth]
  rcases hno with h1 | rfl | ⟨d, rfl, h2⟩
  · simp only [h1, Bool.false_eq_true, if_false]
  · split <;> rfl
  · simp only [cutB_none 58 d h2]; split <;> rfl

/-- no `Authorization` header: empty credentials -/
theorem no_header (b64 : Option Bytes) : credentials [] b64 = {} := rfl

/-! ### RTSP `Credentials` -/

/-- only a header gortsplib parsed contributes; the password only with the Basic method -/
theorem rtsp_fields (a : RtspAuth) :
    rtspCredentials a =
      if a.ok then { user := a.user, pass := if a.basic then a.basicPass else [] } else {} := rfl

theorem rtsp_no_token (a : RtspAuth) : (rtspCredentials a).token = [] := by
  unfold rtspCredentials; split <;> rfl

example : credentials [asc ['B','e','a','r','e','r',' ','u',':','p']] none = { user := asc ['u'], pass := asc ['p'] } := by
  decide
example : credentials [asc ['B','e','a','r','e','r',' ','a',':','b',':','c']] none = { token := asc ['a',':','b',':','c'] } := by
  decide
example : credentials [asc ['B','A','S','I','C',' ','x'], asc ['B','e','a','r','e','r',' ']] (some (asc ['u',':','p'])) = { token := [] } := by
  decide
example : credentials [asc ['b','a','s','i','c',' ','x']] (some (asc ['u',':','p',':','q'])) = { user := asc ['u'], pass := asc ['p',':','q'] } := by
  decide

end MtxVerif.C34
