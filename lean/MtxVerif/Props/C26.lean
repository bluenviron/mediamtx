/-
C26 — Segment file names encode path and start instant losslessly.  Property theorems.

Vocabulary: `toks` = tokenised record path format; `encode toks p F` = the name the recorder writes for
path name `p` and the calendar fields `F` of the start instant; `decode` = `Path.Decode`'s matching step
(= `decodeV true true`: anchored regex, repeated placeholders must agree — the code since fix 2f5d4aa;
`decodeV false false` = the code before that fix, kept for the regression theorems of finding F-C26);
`Producible toks s` = "the whole name `s` is one the recorder could have produced" (for some path name
and some field texts of the right widths).
-/
import MtxVerif.Lemmas.C26

namespace MtxVerif.C26

/-- the whole name is `encodeA toks A` for some assignment of admissible texts to the placeholders. -/
def Producible (toks : List Tok) (s : Bytes) : Prop :=
  ∃ A : Kind → Bytes, (∀ k, Tok.cap k ∈ toks → capOK k (A k) = true) ∧ s = encodeA toks A

/-- every placeholder of the format gets a text its capture group can match. -/
def Admissible (toks : List Tok) (A : Kind → Bytes) : Prop :=
  ∀ k, Tok.cap k ∈ toks → capOK k (A k) = true

/-- the expected decomposition is among the matcher's candidates. -/
theorem expected_mem (toks : List Tok) (A : Kind → Bytes) (hA : Admissible toks A) :
    (capsOf toks A, []) ∈ allM toks (encodeA toks A) :=
  (mem_allM toks _ _ []).mpr ⟨(fits_capsOf_iff toks A).mpr hA, by rw [render_capsOf, List.append_nil]⟩

/-- the executable spec used by the driver decides `Producible`. -/
theorem producibleB_iff (toks : List Tok) (s : Bytes) :
    producibleB toks s = true ↔ Producible toks s := by
  rw [producibleB, List.any_eq_true]
  constructor
  · rintro ⟨⟨cs, r⟩, hm, hh⟩
    rw [Bool.and_eq_true, List.isEmpty_iff] at hh
    obtain ⟨rfl, hc⟩ := hh
    obtain ⟨hf, hs⟩ := (mem_allM toks s cs []).mp hm
    -- coherent captures are the captures of the assignment "last capture of each kind"
    let A : Kind → Bytes := fun k => (lastCap k cs).getD []
    have he : cs = capsOf toks A := fits_eq_capsOf toks cs A hf (consistent_agree cs hc)
    exact ⟨A, (fits_capsOf_iff toks A).mp (he ▸ hf), by rw [hs, List.append_nil, ← render_capsOf, ← he]⟩
  · rintro ⟨A, hA, rfl⟩
    exact ⟨(capsOf toks A, []), expected_mem toks A hA, by rw [consistent_capsOf]; rfl⟩

theorem assign_of_ne (p : Bytes) (F : Fields) {k : Kind} (hk : k ≠ .path) : assign p F k = val F k := by
  cases k <;> first | rfl | exact absurd rfl hk

theorem capOK_val {toks : List Tok} {F : Fields} (hF : fieldsOK toks F = true) {k : Kind}
    (hk : Tok.cap k ∈ toks) (hp : k ≠ .path) : capOK k (val F k) = true := by
  have := List.all_eq_true.mp hF _ hk
  cases k <;> first | exact absurd rfl hp | exact this

theorem admissible_assign (toks : List Tok) (p : Bytes) (F : Fields)
    (hp : pathOK p = true) (hF : fieldsOK toks F = true) : Admissible toks (assign p F) := by
  intro k hk
  by_cases h : k = .path
  · subst h; exact hp
  · rw [assign_of_ne p F h]; exact capOK_val hF hk h

theorem encode_eq_encodeA (toks : List Tok) (p : Bytes) (F : Fields) :
    encode toks p F = encodeA toks (assign p F) := by
  unfold encode encodeA
  congr 1
  funext t
  cases t with
  | lit b => rfl
  | cap k => cases k <;> rfl

/-- names the encoder writes are producible (for field texts of the widths the pattern expects). -/
theorem encode_producible (toks : List Tok) (p : Bytes) (F : Fields)
    (hp : pathOK p = true) (hF : fieldsOK toks F = true) : Producible toks (encode toks p F) :=
  ⟨assign p F, admissible_assign toks p F hp hF, encode_eq_encodeA toks p F⟩

theorem decodeV_eq_some {anch coh : Bool} {toks : List Tok} {s : Bytes} {m : Match} :
    decodeV anch coh toks s = some m ↔
      (if anch then matchAnchored toks s else matchCode toks s) = some m ∧
        (coh = true → consistent m.caps = true) := by
  unfold decodeV
  cases (if anch then matchAnchored toks s else matchCode toks s) with
  | none => simp
  | some m' =>
    cases coh
    · simp
    · cases hc : consistent m'.caps <;> simp [hc] <;> rintro rfl <;> exact hc

theorem search_some (toks : List Tok) (s : Bytes) (off : Nat) (m : Match)
    (h : search toks off s = some m) :
    off ≤ m.off ∧ (m.off = off → (m.caps, m.rest) ∈ allM toks s) := by
  induction s generalizing off with
  | nil =>
    obtain ⟨cr, hh, rfl⟩ := Option.map_eq_some_iff.mp h
    exact ⟨Nat.le_refl _, fun _ => List.mem_of_mem_head? hh⟩
  | cons x s ih =>
    unfold search at h
    split at h
    · rename_i cr hh
      cases h
      exact ⟨Nat.le_refl _, fun _ => List.mem_of_mem_head? hh⟩
    · have := (ih (off + 1) h).1
      exact ⟨by omega, fun e => by omega⟩

/-- a match (of any variant) that covers the whole candidate is a full decomposition of it. -/
theorem match_whole (anch coh : Bool) (toks : List Tok) (s : Bytes) (m : Match)
    (h : decodeV anch coh toks s = some m) (hw : anch = true ∨ m.whole = true) :
    (m.caps, []) ∈ allM toks s := by
  obtain ⟨hm, -⟩ := decodeV_eq_some.mp h
  cases anch with
  | true =>
    obtain ⟨cr, hf, rfl⟩ := Option.map_eq_some_iff.mp hm
    have h2 := List.find?_some hf
    rw [List.isEmpty_iff] at h2
    exact h2 ▸ List.mem_of_find?_eq_some hf
  | false =>
    have hw' := hw.resolve_left Bool.false_ne_true
    rw [Match.whole, Bool.and_eq_true, beq_iff_eq, List.isEmpty_iff] at hw'
    exact hw'.2 ▸ (search_some toks s 0 m hm).2 hw'.1

/-- General form: a recognised name is producible provided the match covers the whole name (automatic
for the anchored variant) and repeated placeholders captured equal texts (automatic for the coherent
variant). -/
theorem recognized_only_if_gen (anch coh : Bool) (toks : List Tok) (s : Bytes) (m : Match)
    (h : decodeV anch coh toks s = some m)
    (hw : anch = true ∨ m.whole = true) (hc : coh = true ∨ consistent m.caps = true) :
    Producible toks s := by
  have hcons : consistent m.caps = true := hc.elim (decodeV_eq_some.mp h).2 id
  rw [← producibleB_iff, producibleB, List.any_eq_true]
  exact ⟨(m.caps, []), match_whole anch coh toks s m h hw, by rw [hcons]; rfl⟩

/-- (regression, finding F-C26) The property's second half at full strength for the matcher *before fix
2f5d4aa* (unanchored, last capture wins).  **False** (see the two witnesses below). -/
def recognized_only_if_full : Prop :=
  ∀ (toks : List Tok) (s : Bytes) (m : Match), decodeV false false toks s = some m → Producible toks s

/-- (regression) What held for the pre-fix matcher: outside the two decidable classes `unanchoredExtra`
(the match does not cover the whole name) and `repeatedMismatch`, a recognised name is producible. -/
theorem recognized_only_if_partial (toks : List Tok) (s : Bytes) (m : Match)
    (h : decodeV false false toks s = some m)
    (h1 : unanchoredExtra toks s = false) (h2 : repeatedMismatch toks s = false) :
    Producible toks s := by
  have hm : matchCode toks s = some m := (decodeV_eq_some.mp h).1
  refine recognized_only_if_gen false false toks s m h (Or.inr ?_) (Or.inr ?_)
  · simpa [unanchoredExtra, hm] using h1
  · simpa [repeatedMismatch, hm] using h2

/-- With the fix (anchored regex, coherent repeated placeholders) the second half holds at full strength. -/
theorem recognized_only_if_fixed (toks : List Tok) (s : Bytes) (m : Match)
    (h : decodeV true true toks s = some m) : Producible toks s :=
  recognized_only_if_gen true true toks s m h (Or.inl rfl) (Or.inl rfl)

/-- **C26, second half, full strength, for the code**: a file is recognised as a segment only if its
whole name is one the recorder could have produced — for every format and every candidate name. -/
theorem recognized_only_if (toks : List Tok) (s : Bytes) (m : Match)
    (h : decode toks s = some m) : Producible toks s :=
  recognized_only_if_fixed toks s m h

/-- Witness 1 (class `unanchoredExtra`): format `%s`, file `1700000000x` is recognised by the code,
although no instant produces that name. -/
theorem recognized_only_if_witness : ¬ recognized_only_if_full := by
  intro h
  have hp := h [.cap .s] (asc ['1','7','0','0','0','0','0','0','0','0','x'])
    ⟨0, [(.s, asc ['1','7','0','0','0','0','0','0','0','0'])], asc ['x']⟩ (by decide)
  rw [← producibleB_iff] at hp
  revert hp
  decide +kernel

/-- Witness 2 (class `repeatedMismatch`, independent of anchoring): format `%path/%path`, file `a/b` is
recognised even by the anchored regex, as a segment of path `b`. -/
theorem repeated_placeholder_witness :
    ∃ m, decodeV true false [.cap .path, .lit 47, .cap .path] (asc ['a','/','b']) = some m ∧
      decodedPath m.caps = asc ['b'] ∧
      ¬ Producible [.cap .path, .lit 47, .cap .path] (asc ['a','/','b']) := by
  refine ⟨⟨0, [(.path, asc ['a']), (.path, asc ['b'])], []⟩, by decide, by decide, ?_⟩
  rw [← producibleB_iff]
  decide +kernel

theorem whole_eq_expected {toks : List Tok} (h1 : pathCount toks ≤ 1) {A : Kind → Bytes}
    (hA : Admissible toks A) {cs : Caps} (hm : (cs, []) ∈ allM toks (encodeA toks A)) :
    cs = capsOf toks A := by
  obtain ⟨hfit, hs⟩ := (mem_allM toks _ cs []).mp hm
  exact render_inj toks h1 cs _ hfit ((fits_capsOf_iff toks A).mpr hA)
    (by rw [render_capsOf, hs, List.append_nil])

/-- **Path-listing flow with the fix**: with at most one `%path`, the anchored matcher recognises the
recorder's name and captures exactly the path name and field texts the encoder wrote. -/
theorem roundtrip_anchored (coh : Bool) (toks : List Tok) (h1 : pathCount toks ≤ 1)
    (A : Kind → Bytes) (hA : Admissible toks A) :
    decodeV true coh toks (encodeA toks A) = some ⟨0, capsOf toks A, []⟩ := by
  refine decodeV_eq_some.mpr ⟨?_, fun _ => consistent_capsOf toks A⟩
  rw [if_pos rfl, matchAnchored]
  cases hf : (allM toks (encodeA toks A)).find? (fun cr => cr.2.isEmpty) with
  | none => exact absurd rfl (List.find?_eq_none.mp hf _ (expected_mem toks A hA))
  | some cr =>
    obtain ⟨cs, r⟩ := cr
    have hr := List.find?_some hf
    obtain rfl : r = [] := List.isEmpty_iff.mp hr
    rw [whole_eq_expected h1 hA (List.mem_of_find?_eq_some hf)]
    rfl

/-- **FindSegments flow** (format with the path name already substituted, so no `%path` is left): the
code *as written* — and every variant — recognises the recorder's name and captures exactly the texts
the encoder wrote.  Deterministic pattern ⇒ the missing anchors do no harm on the recorder's own names. -/
theorem roundtrip_nopath (anch coh : Bool) (toks : List Tok) (h0 : pathCount toks = 0)
    (A : Kind → Bytes) (hA : Admissible toks A) :
    decodeV anch coh toks (encodeA toks A) = some ⟨0, capsOf toks A, []⟩ := by
  cases anch with
  | true => exact roundtrip_anchored coh toks (by omega) A hA
  | false =>
    -- the matcher has no choice, so the leftmost match is the expected decomposition
    have hdet := allM_det toks (pathFree_of_count toks h0) (capsOf toks A) [] ((fits_capsOf_iff toks A).mpr hA)
    rw [render_capsOf, List.append_nil] at hdet
    exact decodeV_eq_some.mpr
      ⟨search_head toks _ 0 (capsOf toks A, []) (by rw [hdet]; rfl), fun _ => consistent_capsOf toks A⟩

/-- (regression) The pre-fix matcher always recognised the recorder's name (some match starts at offset 0) … -/
theorem roundtrip_code_recognised (toks : List Tok) (A : Kind → Bytes) (hA : Admissible toks A) :
    ∃ m, decodeV false false toks (encodeA toks A) = some m ∧ m.off = 0 := by
  cases hh : (allM toks (encodeA toks A)).head? with
  | none =>
    rw [List.head?_eq_none_iff] at hh
    exact absurd (expected_mem toks A hA) (hh ▸ List.not_mem_nil)
  | some cr =>
    exact ⟨⟨0, cr.1, cr.2⟩, decodeV_eq_some.mpr ⟨search_head toks _ 0 cr hh, fun h => nomatch h⟩, rfl⟩

/-- (regression) … but with which path and start?  Full strength for the pre-fix matcher — **false** (witness below):
the lazy `(.*?)` without `$` stops at the first place where the rest of the pattern fits. -/
def roundtrip_code_full : Prop :=
  ∀ (toks : List Tok) (A : Kind → Bytes), pathCount toks ≤ 1 → Admissible toks A →
    ∃ m, decodeV false false toks (encodeA toks A) = some m ∧ m.caps = capsOf toks A

/-- (regression) pre-fix matcher: outside the class `unanchoredExtra` the match is the expected one. -/
theorem roundtrip_code_partial (toks : List Tok) (h1 : pathCount toks ≤ 1)
    (A : Kind → Bytes) (hA : Admissible toks A)
    (hx : unanchoredExtra toks (encodeA toks A) = false) :
    decodeV false false toks (encodeA toks A) = some ⟨0, capsOf toks A, []⟩ := by
  obtain ⟨⟨o, c, r⟩, hm, _⟩ := roundtrip_code_recognised toks A hA
  have hw : Match.whole ⟨o, c, r⟩ = true := by
    simpa [unanchoredExtra, show matchCode toks (encodeA toks A) = some ⟨o, c, r⟩ from (decodeV_eq_some.mp hm).1]
      using hx
  have hc : c = _ := whole_eq_expected h1 hA (match_whole false false toks _ _ hm (Or.inr hw))
  obtain ⟨rfl, rfl⟩ : o = 0 ∧ r = [] := by simpa [Match.whole] using hw
  rw [hm, hc]

/-- Witness: format `%path_%d`, path name `x_11`, day `22`: the recorder writes `x_11_22`; the code
recognises it as path `x`, day `11`. -/
theorem roundtrip_code_witness : ¬ roundtrip_code_full := by
  intro h
  let A : Kind → Bytes := fun k => match k with
    | .path => asc ['x','_','1','1']
    | .d => asc ['2','2']
    | _ => []
  have hA : Admissible [.cap .path, .lit 95, .cap .d] A := (fits_capsOf_iff _ A).mp (by decide)
  obtain ⟨m, hm, hc⟩ := h [.cap .path, .lit 95, .cap .d] A (by decide) hA
  have hm' : decodeV false false [.cap .path, .lit 95, .cap .d] (encodeA [.cap .path, .lit 95, .cap .d] A)
      = some ⟨0, [(.path, asc ['x']), (.d, asc ['1','1'])], asc ['_','2','2']⟩ := by decide +kernel
  rw [hm'] at hm
  cases hm
  revert hc
  decide

/-- what `Decode` reports as the path name, for the expected captures. -/
theorem decoded_path (toks : List Tok) (A : Kind → Bytes) (h : Tok.cap .path ∈ toks) :
    decodedPath (capsOf toks A) = A .path := by
  rw [decodedPath, lastCap_capsOf toks A .path h]
  rfl

/-- all numbers are below 10^20 (true of any `int`/`int64`). -/
def Bounded (F : Fields) : Prop :=
  F.year.natAbs < 10 ^ 20 ∧ F.month < 10 ^ 20 ∧ F.day < 10 ^ 20 ∧ F.hour < 10 ^ 20 ∧ F.minute < 10 ^ 20 ∧
  F.sec < 10 ^ 20 ∧ F.micros < 10 ^ 20 ∧ F.unix.natAbs < 10 ^ 20

def num (F : Fields) : Kind → Nat
  | .Y => F.year.toNat
  | .m => F.month
  | .d => F.day
  | .H => F.hour
  | .M => F.minute
  | .S => F.sec
  | .f => F.micros
  | .s => F.unix.toNat
  | _ => 0

theorem parse_fmtInt (v : Int) (hb : v.natAbs < 10 ^ 20) (w : Nat)
    (hok : ((fmtInt v).length == w && (fmtInt v).all isDigit) = true) :
    parseDec (fmtInt v) = v.toNat ∧ 0 ≤ v := by
  unfold fmtInt at hok ⊢
  by_cases hneg : v < 0
  · simp only [hneg, if_true, List.all_cons, Bool.and_eq_true] at hok
    exact absurd hok.2.1 (by decide)
  · rw [if_neg hneg, parseDec_natDec _ hb]
    omega

theorem parse_val (F : Fields) (k : Kind) (hk : k.isNum = true) (hok : capOK k (val F k) = true)
    (hb : Bounded F) : parseDec (val F k) = num F k := by
  obtain ⟨b1, b2, b3, b4, b5, b6, b7, b8⟩ := hb
  rw [capOK_num hk] at hok
  cases k
  case path | z => cases hk
  case Y => exact (parse_fmtInt _ b1 _ hok).1
  case s => exact (parse_fmtInt _ b8 _ hok).1
  -- the other six fields are written zero-padded; the bound of each is among `b2 … b7`
  all_goals exact parseDec_leadingZeros _ _ (by assumption)

theorem numOr_capsOf (toks : List Tok) (p : Bytes) (F : Fields) (k : Kind) (hk : k.isNum = true)
    (hF : fieldsOK toks F = true) (hb : Bounded F) (d : Nat) :
    numOr k (capsOf toks (assign p F)) d = if hasKind k toks then num F k else d := by
  have hp : k ≠ .path := by rintro rfl; cases hk
  rw [numOr, lastCap_capsOf_eq]
  cases h : hasKind k toks
  · rfl
  · show parseDec (assign p F k) = num F k
    rw [assign_of_ne p F hp]
    exact parse_val F k hk (capOK_val hF (by simpa [hasKind] using h) hp) hb

/-- **The decoded start.**  From the captures of a recorder-written name, `Decode` calls
`time.Unix(F.unix, micros)` if the format has `%s` (and the time is after 1970), otherwise
`time.Date` with exactly the calendar fields the encoder read off the instant (defaults for absent
placeholders; zone from `%z`, else `time.Local`).  Whether that call returns the original instant is the
calendar oracle's business (it does unless the local time is ambiguous or the zone offset has seconds). -/
theorem decoded_start (toks : List Tok) (p : Bytes) (F : Fields)
    (hF : fieldsOK toks F = true) (hb : Bounded F) :
    decodedStart (capsOf toks (assign p F)) = expectedStart toks F := by
  have n := fun k hk d => numOr_capsOf toks p F k hk hF hb d
  have hz : (lastCap .z (capsOf toks (assign p F))).map zoneDec =
      if hasKind .z toks then some (zoneDec (zoneEnc F.off)) else none := by
    rw [lastCap_capsOf_eq]; cases hasKind .z toks <;> rfl
  unfold decodedStart expectedStart
  simp only [n .Y rfl, n .m rfl, n .d rfl, n .H rfl, n .M rfl, n .S rfl, n .f rfl, num, hz,
    lastCap_capsOf_eq toks _ .s]
  cases hs : hasKind .s toks
  · simp
  · -- the unix seconds are written without sign, so they are not negative and read back as themselves
    have hok := capOK_val hF (k := .s) (by simpa [hasKind] using hs) (by decide)
    rw [capOK_num rfl] at hok
    obtain ⟨hp, hnn⟩ := parse_fmtInt F.unix hb.2.2.2.2.2.2.2 _ hok
    have hu : ((parseDec (assign p F .s) : Nat) : Int) = F.unix := by
      show ((parseDec (fmtInt F.unix) : Nat) : Int) = F.unix
      rw [hp]; omega
    simp [hu]

theorem encode_expand (toks : List Tok) (p q : Bytes) (F : Fields) :
    encode (expand toks p) q F = encode toks p F := by
  -- both sides map every token to a text and concatenate; the texts agree token by token
  rw [encode, expand, List.flatMap_assoc, encode]
  congr 1
  funext t
  cases t with
  | lit b => exact List.flatMap_singleton _ _
  | cap k =>
    cases k
    case path => exact (List.flatMap_map ..).trans (List.flatMap_singleton' p)
    all_goals exact List.flatMap_singleton _ _

/-- the recorder's file name (path name substituted into the format first) is the token-level encoding,
provided the substitution creates no new placeholder. -/
theorem recorderName_eq (fmt p : Bytes) (F : Fields) (hsp : spliceFree fmt p = true) :
    recorderName fmt p F = encode (tokenize fmt) p F := by
  rw [recorderName, beq_iff_eq.mp hsp, encode_expand]

theorem mem_of_pathCount_pos {toks : List Tok} (h : 0 < pathCount toks) : Tok.cap .path ∈ toks := by
  obtain ⟨t, ht⟩ := List.exists_mem_of_length_pos h
  rw [List.mem_filter, beq_iff_eq] at ht
  exact ht.2 ▸ ht.1

/-- **C26, first half, full strength, for the code** (path-listing flow; the regex anchored `^…$`): for
every format with one `%path`, every newline-free path name that does not splice, and every instant whose
field texts have the pattern's widths, the recorder's file name is recognised with exactly that path name
and the `time.Date`/`time.Unix` arguments read off that instant. -/
theorem segment_roundtrip (fmt p : Bytes) (F : Fields)
    (h1 : pathCount (tokenize fmt) = 1) (hsp : spliceFree fmt p = true) (hp : pathOK p = true)
    (hF : fieldsOK (tokenize fmt) F = true) (hb : Bounded F) :
    ∃ m, decode (tokenize fmt) (recorderName fmt p F) = some m ∧
      decodedPath m.caps = p ∧ decodedStart m.caps = expectedStart (tokenize fmt) F := by
  refine ⟨⟨0, capsOf (tokenize fmt) (assign p F), []⟩, ?_,
    decoded_path _ _ (mem_of_pathCount_pos (by omega)), decoded_start _ p F hF hb⟩
  rw [recorderName_eq fmt p F hsp, encode_eq_encodeA]
  exact roundtrip_anchored true _ (by omega) _ (admissible_assign _ p F hp hF)

/-- (regression) path-listing flow before fix 2f5d4aa: the same conclusion only outside the class
`unanchoredExtra`. -/
theorem segment_roundtrip_partial (fmt p : Bytes) (F : Fields)
    (h1 : pathCount (tokenize fmt) = 1) (hsp : spliceFree fmt p = true) (hp : pathOK p = true)
    (hF : fieldsOK (tokenize fmt) F = true) (hb : Bounded F)
    (hx : unanchoredExtra (tokenize fmt) (recorderName fmt p F) = false) :
    ∃ m, decodeV false false (tokenize fmt) (recorderName fmt p F) = some m ∧
      decodedPath m.caps = p ∧ decodedStart m.caps = expectedStart (tokenize fmt) F := by
  rw [recorderName_eq fmt p F hsp, encode_eq_encodeA] at hx ⊢
  exact ⟨_, roundtrip_code_partial _ (by omega) _ (admissible_assign _ p F hp hF) hx,
    decoded_path _ _ (mem_of_pathCount_pos (by omega)), decoded_start _ p F hF hb⟩

/-- **C26, first half, `FindSegments` / cleaner / playback / API flow** (the path name is substituted into
the format before decoding, so the pattern has no `(.*?)`): the recorder's file name is always
recognised, with the `time.Date`/`time.Unix` arguments read off the instant — for *every* variant of
the matcher (the missing anchors never affected the recorder's own names in this flow). -/
theorem segment_roundtrip_findsegments (anch coh : Bool) (fmt p : Bytes) (F : Fields)
    (h0 : pathCount (tokenize (substPath fmt p)) = 0)
    (hF : fieldsOK (tokenize (substPath fmt p)) F = true) (hb : Bounded F) :
    ∃ m, decodeV anch coh (tokenize (substPath fmt p)) (recorderName fmt p F) = some m ∧ m.whole = true ∧
      decodedStart m.caps = expectedStart (tokenize (substPath fmt p)) F := by
  refine ⟨⟨0, capsOf _ (assign [] F), []⟩, ?_, rfl, decoded_start _ [] F hF hb⟩
  rw [recorderName, encode_eq_encodeA]
  exact roundtrip_nopath anch coh _ h0 _ (admissible_assign _ [] F rfl hF)

/-- `%path/%s.ts` -/
example : tokenize (asc ['%','p','a','t','h','/','%','s','.','t','s'])
    = [.cap .path, .lit 47, .cap .s, .lit 46, .lit 116, .lit 115] := by decide +kernel
/-- hostile tokenisations: `%%Y`, `%p`, trailing `%`, `%pathY` -/
example : tokenize (asc ['%','%','Y','%','p','%']) = [.lit 37, .cap .Y, .lit 37, .lit 112, .lit 37]
    ∧ tokenize (asc ['%','p','a','t','h','Y']) = [.cap .path, .lit 89] := by decide +kernel
/-- the hypotheses of the round-trip theorems are satisfiable: 2024-02-29 23:59:58.000007 +05:30 -/
example :
    let fmt := asc ['%','p','a','t','h','/','%','Y','-','%','m','-','%','d','_','%','H','-','%','M','-','%','S','-','%','f','%','z']
    let F : Fields := ⟨2024, 2, 29, 23, 59, 58, 7, 19800, 1709231398⟩
    pathCount (tokenize fmt) = 1 ∧ spliceFree fmt (asc ['c','a','m','/','1']) = true
      ∧ fieldsOK (tokenize fmt) F = true
      ∧ recorderName fmt (asc ['c','a','m','/','1']) F
        = asc ['c','a','m','/','1','/','2','0','2','4','-','0','2','-','2','9','_','2','3','-','5','9','-','5','8','-','0','0','0','0','0','7','+','0','5','3','0']
      ∧ expectedStart (tokenize fmt) F = .date ⟨2024, 2, 29, 23, 59, 58, 7, some 19800⟩ := by decide +kernel
example : Bounded ⟨2024, 2, 29, 23, 59, 58, 7, 19800, 1709231398⟩ := by
  refine ⟨?_, ?_, ?_, ?_, ?_, ?_, ?_, ?_⟩ <;> decide +kernel
/-- the splice: `%%path` with a name starting with `s` makes a new `%s` -/
example : spliceFree (asc ['%','%','p','a','t','h']) (asc ['s','1']) = false
    ∧ tokenize (substPath (asc ['%','%','p','a','t','h']) (asc ['s','1'])) = [.cap .s, .lit 49] := by decide +kernel
/-- years with other than four digits / unix seconds with other than ten are not decodable -/
example : fieldsOK [.cap .Y] ⟨999, 1, 1, 0, 0, 0, 0, 0, 0⟩ = false
    ∧ fieldsOK [.cap .s] ⟨1970, 1, 1, 0, 0, 0, 0, 0, 86400⟩ = false
    ∧ fieldsOK [.cap .s] ⟨2001, 9, 9, 1, 46, 40, 0, 0, 1000000000⟩ = true := by decide +kernel
/-- zone texts -/
example : zoneEnc 0 = asc ['Z'] ∧ zoneEnc 19800 = asc ['+','0','5','3','0'] ∧ zoneEnc (-12600) = asc ['-','0','3','3','0']
    ∧ zoneDec (zoneEnc 19800) = 19800 ∧ zoneDec (zoneEnc (-12600)) = -12600 ∧ zoneDec (zoneEnc 3599) = 3540 := by decide +kernel

end MtxVerif.C26
