/-
C40 — "Concurrent publishing, reading, API queries, metrics scrapes, configuration reloads, kicks and
shutdown never cause a data race, and every operation (including shutdown) completes."

PARTIAL BY DESIGN.  What is proved here: deadlock freedom of the channel protocol between Core.run,
pathManager.run, path.run and their clients, on a wait-for model whose table of blocking operations is
regenerated from the source (`Gen/C40.lean`) and whose structural side conditions ("every request has
the callee's Done arm", "every upward request has both Done arms", "every reply channel is read by the
requester", "every join by a loop follows the cancellation of the joined context", the level
condition) are `decide`d on that table.  What is NOT proved: data-race freedom (no model of the Go
memory model; searched with `go test -race` in the thorough tier only), and that real executions
satisfy the model's invariant `Inv` beyond the extracted facts (in particular that every handler sends
exactly one reply, and that calls into other packages return).
-/
import MtxVerif.Model.C40
import MtxVerif.Gen.C40

namespace MtxVerif.C40

/-- What a configuration of the running system satisfies, relative to the wait table `T`. -/
structure Inv (T : List WaitRow) (σ : Config) : Prop where
  /-- a blocked goroutine is in one of the waits the table lists for its class, on a peer of the
  listed class -/
  conf : ∀ a w b, σ.status a = .blocked w b → w ∈ T ∧ w.cls = σ.cls a ∧ w.peer = σ.cls b
  /-- a join marked "after cancel" really comes after the cancellation of the joined context -/
  joinCancelled : ∀ a w b, σ.status a = .blocked w b → w.kind = .join → w.afterCancel = true →
    σ.cancelled b = true
  /-- a reply is sent to a requester that is reading the reply channel -/
  replyRead : ∀ a w b, σ.status a = .blocked w b → w.kind = .reply → (σ.status b).isAwaiting a = true
  /-- a goroutine awaits a reply only from a loop that accepted its request and is handling it -/
  served : ∀ a w b, σ.status a = .blocked w b → w.kind = .awaitReply →
    σ.status b ≠ .idle ∧ σ.status b ≠ .exited
  /-- a loop cancels its own context when it exits -/
  exitCancelled : ∀ b, σ.status b = .exited → σ.cancelled b = true
  /-- only loops sit in a main select -/
  idleIsServer : ∀ b, σ.status b = .idle → isServer (σ.cls b) = true

theorem stuck_iff {σ : Config} {a : Nat} :
    stuck σ a = true ↔ ∃ w b, σ.status a = .blocked w b ∧ enabled σ a w b = false := by
  unfold stuck
  cases h : σ.status a with
  | blocked w b =>
    rw [Bool.not_eq_true']
    exact ⟨fun he => ⟨w, b, rfl, he⟩, fun ⟨_, _, e, he⟩ => by cases e; exact he⟩
  | _ => exact ⟨fun e => (nomatch e), fun ⟨_, _, e, _⟩ => (nomatch e)⟩

theorem enabled_call {σ : Config} {a b : Nat} {w : WaitRow} (hk : w.kind = .call) :
    enabled σ a w b = (σ.status b == .idle || (w.doneSelf && σ.cancelled a) || (w.doneTo && σ.cancelled b)) := by
  rw [enabled, hk]

/-- a reply is never stuck -/
theorem reply_not_stuck {T : List WaitRow} {σ : Config} (hI : Inv T σ) {a b : Nat} {w : WaitRow}
    (hs : σ.status a = .blocked w b) (hk : w.kind = .reply) : enabled σ a w b = true := by
  rw [enabled, hk]; exact hI.replyRead a w b hs hk

/-- **the level argument**: if `a` is stuck waiting for `b` and `b` is stuck too, the level drops -/
theorem edge_decreases {T : List WaitRow} {σ : Config} (hI : Inv T σ) (hL : levelsOK T = true)
    {a b : Nat} (hab : waitsFor σ a b) (hb : stuck σ b = true) : lvl σ b < lvl σ a := by
  obtain ⟨w1, hs1, he1⟩ := hab
  obtain ⟨w2, c, hs2, he2⟩ := stuck_iff.mp hb
  obtain ⟨hm1, _, hp1⟩ := hI.conf a w1 b hs1
  obtain ⟨hm2, hc2, _⟩ := hI.conf b w2 c hs2
  have hl := List.all_eq_true.mp (List.all_eq_true.mp hL w1 hm1) w2 hm2
  simp only [Bool.or_eq_true, bne_iff_ne, ne_eq, beq_iff_eq, Bool.and_eq_true,
    decide_eq_true_eq] at hl
  simp only [lvl, hs1, hs2]
  rcases hl with (((h | h) | h) | h) | h
  · exact absurd (hp1.trans hc2.symm) h
  · rw [reply_not_stuck hI hs1 h] at he1; cases he1
  · rw [reply_not_stuck hI hs2 h] at he2; cases he2
  · -- a joins b after cancelling it, b is in a call with its own Done arm: b is not stuck
    obtain ⟨⟨⟨hj, hac⟩, hcall⟩, hds⟩ := h
    rw [enabled_call hcall, hds, hI.joinCancelled a w1 b hs1 hj hac, Bool.and_self, Bool.or_true,
      Bool.true_or] at he2
    cases he2
  · exact h

/-- chains of stuck goroutines -/
def stuckEdge (σ : Config) (a b : Nat) : Prop := waitsFor σ a b ∧ stuck σ b = true

/-- **no_wait_cycle**: the wait-for graph restricted to stuck goroutines has no cycle -/
theorem no_wait_cycle {T : List WaitRow} {σ : Config} (hI : Inv T σ) (hL : levelsOK T = true)
    (a : Nat) : ¬ Relation.TransGen (stuckEdge σ) a a := by
  have mono : ∀ x y, Relation.TransGen (stuckEdge σ) x y → lvl σ y < lvl σ x := by
    intro x y h
    induction h with
    | single h => exact edge_decreases hI hL h.1 h.2
    | tail _ h ih => exact Nat.lt_trans (edge_decreases hI hL h.1 h.2) ih
  exact fun h => Nat.lt_irrefl _ (mono a a h)

/-- reachability along wait-for edges -/
inductive Reach (σ : Config) : Nat → Nat → Prop
  | refl (a : Nat) : Reach σ a a
  | step {a b c : Nat} : waitsFor σ a b → Reach σ b c → Reach σ a c

/-- **no deadlock**: from every stuck goroutine the wait-for chain reaches, in at most `lvl` steps, a
goroutine that is not stuck (it is idle in its main select, running, exited, or blocked in a wait that
can complete).  So no set of goroutines waits only on itself. -/
theorem stuck_chain_ends {T : List WaitRow} {σ : Config} (hI : Inv T σ) (hL : levelsOK T = true) :
    ∀ (n a : Nat), lvl σ a ≤ n → stuck σ a = true →
      ∃ x b, Reach σ a x ∧ waitsFor σ x b ∧ stuck σ b = false := by
  intro n
  induction n using Nat.strongRecOn with
  | ind n ih =>
    intro a hn hs
    obtain ⟨w, b, hsa, he⟩ := stuck_iff.mp hs
    have hab : waitsFor σ a b := ⟨w, hsa, he⟩
    cases hb : stuck σ b with
    | false => exact ⟨a, b, Reach.refl a, hab, hb⟩
    | true =>
      have hlt := edge_decreases hI hL hab hb
      obtain ⟨x, c, hr, hw, hc⟩ := ih (lvl σ b) (by omega) b (Nat.le_refl _) hb
      exact ⟨x, c, Reach.step hab hr, hw, hc⟩

/-- every call has the callee's Done arm; calls and joins target loops -/
def shutdownOK (T : List WaitRow) : Bool :=
  T.all fun r =>
    (r.kind != .call || (r.doneTo && isServer r.peer)) &&
    (r.kind != .join || isServer r.peer)

/-- all loop contexts are cancelled -/
def AllCancelled (σ : Config) : Prop := ∀ b, isServer (σ.cls b) = true → σ.cancelled b = true

/-- during shutdown no call is stuck at all -/
theorem shutdown_calls_complete {T : List WaitRow} {σ : Config} (hI : Inv T σ)
    (hS : shutdownOK T = true) (hC : AllCancelled σ) {a b : Nat} {w : WaitRow}
    (hs : σ.status a = .blocked w b) (hk : w.kind = .call) : enabled σ a w b = true := by
  obtain ⟨hm, _, hp⟩ := hI.conf a w b hs
  have hrow := List.all_eq_true.mp hS w hm
  simp only [Bool.and_eq_true, Bool.or_eq_true, bne_iff_ne, ne_eq] at hrow
  obtain ⟨hd, hsrv⟩ := hrow.1.resolve_left (fun h => h hk)
  rw [enabled_call hk, hd, hC b (hp ▸ hsrv), Bool.and_self, Bool.or_true]

/-- during shutdown, a goroutine that someone is stuck on — and that is not stuck itself — can move -/
theorem shutdown_peer_moves {T : List WaitRow} {σ : Config} (hI : Inv T σ)
    (hS : shutdownOK T = true) (hC : AllCancelled σ) {x b : Nat}
    (hw : waitsFor σ x b) (hb : stuck σ b = false) : canMove σ b = true := by
  obtain ⟨w, hs, he⟩ := hw
  unfold canMove
  unfold stuck at hb
  cases hsb : σ.status b with
  | running => rfl
  | blocked w' c => simpa [hsb] using hb
  | idle => exact hC b (hI.idleIsServer b hsb)
  | exited =>
    -- x is stuck on an exited goroutine: impossible for every kind of wait
    exfalso
    cases hk : w.kind with
    | call => rw [shutdown_calls_complete hI hS hC hs hk] at he; cases he
    | awaitReply => exact (hI.served x w b hs hk).2 hsb
    | reply => rw [reply_not_stuck hI hs hk] at he; cases he
    | join => rw [enabled, hk, hsb] at he; cases he

/-- **shutdown cannot get stuck**: once every loop context is cancelled, if no goroutine can move then
every goroutine has exited -/
theorem shutdown_quiescent_exited {T : List WaitRow} {σ : Config} (hI : Inv T σ)
    (hL : levelsOK T = true) (hS : shutdownOK T = true) (hC : AllCancelled σ)
    (hq : ∀ b, canMove σ b = false) : ∀ a, σ.status a = .exited := by
  intro a
  have ha := hq a
  unfold canMove at ha
  cases hsa : σ.status a with
  | exited => rfl
  | running => rw [hsa] at ha; cases ha
  | idle =>
    rw [hsa, hC a (hI.idleIsServer a hsa)] at ha; cases ha
  | blocked w b =>
    -- a stuck goroutine leads to one that is waited for and not stuck, which can move
    rw [hsa] at ha
    obtain ⟨x, c, _, hw, hc⟩ :=
      stuck_chain_ends hI hL (lvl σ a) a (Nat.le_refl _) (stuck_iff.mpr ⟨w, b, hsa, ha⟩)
    have := shutdown_peer_moves hI hS hC hw hc
    rw [hq c] at this; cases this

/-- An abstract shutdown run: steps preserve the invariant and the cancellation, every step consumes
fuel (each goroutine has finitely many operations left before it exits), and a goroutine that can
move gives rise to a step (the scheduler runs it). -/
structure ShutdownSys (T : List WaitRow) where
  step : Config → Config → Prop
  fuel : Config → Nat
  dec : ∀ σ τ, step σ τ → fuel τ < fuel σ
  presInv : ∀ σ τ, Inv T σ → step σ τ → Inv T τ
  presCancel : ∀ σ τ, AllCancelled σ → step σ τ → AllCancelled τ
  live : ∀ σ b, Inv T σ → canMove σ b = true → ∃ τ, step σ τ

/-- finitely many steps -/
inductive Steps {T : List WaitRow} (S : ShutdownSys T) : Config → Config → Prop
  | refl (σ : Config) : Steps S σ σ
  | head {σ τ υ : Config} : S.step σ τ → Steps S τ υ → Steps S σ υ

/-- **shutdown_terminates**: every such run reaches, in finitely many steps, a configuration in which
every goroutine has exited -/
theorem shutdown_terminates {T : List WaitRow} (S : ShutdownSys T)
    (hL : levelsOK T = true) (hS : shutdownOK T = true) :
    ∀ (n : Nat) (σ : Config), S.fuel σ ≤ n → Inv T σ → AllCancelled σ →
      ∃ τ, Steps S σ τ ∧ ∀ a, τ.status a = .exited := by
  intro n
  induction n using Nat.strongRecOn with
  | ind n ih =>
    intro σ hf hI hC
    by_cases hq : ∃ b, canMove σ b = true
    · obtain ⟨b, hb⟩ := hq
      obtain ⟨τ, hst⟩ := S.live σ b hI hb
      have hd := S.dec σ τ hst
      obtain ⟨υ, hr, he⟩ :=
        ih (S.fuel τ) (by omega) τ (Nat.le_refl _) (S.presInv σ τ hI hst) (S.presCancel σ τ hC hst)
      exact ⟨υ, .head hst hr, he⟩
    · exact ⟨σ, .refl σ, shutdown_quiescent_exited hI hL hS hC
        fun b => Bool.eq_false_iff.mpr fun h => hq ⟨b, h⟩⟩

/-! ## the real table (regenerated from the three files on every run)

The facts about the generated tables are finite and are evaluated by the kernel alone (`decide +kernel`):
letting the elaborator evaluate them first makes the file several times slower to check. -/

open MtxVerif.Gen.C40

/-- the wait table of the real code -/
def T : List WaitRow := waitRows ops

theorem real_all_classified : allClassified ops = true := by decide +kernel
/-- every request has the callee's Done arm -/
theorem real_requests_have_callee_done : requestsHaveCalleeDone ops = true := by decide +kernel
/-- every upward request (path → pathManager) has both Done arms -/
theorem real_upward_have_own_done : upwardHaveOwnDone ops = true := by decide +kernel
/-- every reply channel is read by the requester -/
theorem real_replies_are_read : repliesAreRead ops = true := by decide +kernel
theorem real_upward_no_reply : upwardNoReply ops = true := by decide +kernel
/-- doClosePath: pa.close(); pa.wait() — pathManager.close: ctxCancel(); wg.Wait() -/
theorem real_loop_joins_after_cancel : loopJoinsAfterCancel ops = true := by decide +kernel
theorem real_main_selects_have_done : mainSelectsHaveDone ops = true := by decide +kernel
theorem real_exit_cancels :
    exitCancelsCore = true ∧ exitCancelsPM = true ∧ exitCancelsPath = true ∧
    wgCountsPM = true ∧ wgCountsPath = true := by decide
/-- every return after a Lock without defer is preceded by the Unlock (core and hls server/muxer files);
`muxer.initialize` hands its mutex to `muxer.runInner`, which releases it on every exit -/
theorem real_unlock_on_all_paths : unlockOnAllPaths lockFns = true := by decide +kernel
/-- Finding class `hlsMuxerLockCycle`: every lock-cycle hazard of the generated table is the HLS server
loop taking `muxer.mutex` (in its API handlers) while a muxer function holds that mutex across a request
to the path manager or a path. -/
theorem real_lock_hazards_known :
    (lockCycleHazards lockFns loopLockCalls).all
      (fun h => h.1 == LP_hls_Server_run &&
        (lockFns.any fun l => l.fn == h.2.1 && l.lockObj == LO_hls_muxer_mutex)) = true := by decide +kernel
/-- **no recursive lock**: no function calls, while it holds a mutex, a function of its package that
(transitively, through calls resolved with syntactic type hints) takes the same mutex object again — a
recursive `RLock` deadlocks as soon as a writer arrives in between.  The one listed pair is not the same
instance: `session.initialize` holds ITS `initMutex` while `muxer.addSession` may close ANOTHER session
(the CDN session being replaced), which takes that other session's `initMutex`. -/
theorem real_no_recursive_lock :
    recursiveLocks.all (· == (LF_hls_session_initialize, MU_hls_session_initMutex)) = true := by decide

/-- the `_fixed` variant of the HLS rows below: once the HLS loop no longer waits for a starting muxer's
mutex (proposed fix: requests wait on a `ready` channel, API queries never block), the remaining two rows
fit the level argument, so `no_wait_cycle` and `stuck_chain_ends` cover them -/
def hlsRowsFixed : List WaitRow :=
  [⟨.pm, .call, .hls, false, true, false⟩, ⟨.muxer, .call, .pm, false, true, false⟩,
   ⟨.muxer, .awaitReply, .pm, false, false, false⟩]

/-- the side conditions on the wait table, decided together: the table is computed once -/
theorem real_table_ok :
    levelsOK T = true ∧ shutdownOK T = true ∧ levelsOK (T ++ hlsRowsFixed) = true := by decide +kernel

theorem real_levels_ok : levelsOK T = true := real_table_ok.1
theorem real_shutdown_ok : shutdownOK T = true := real_table_ok.2.1
theorem hls_fixed_levels_ok : levelsOK (T ++ hlsRowsFixed) = true := real_table_ok.2.2

/-- **C40 (deadlock half) on the real table**: no cycle of stuck goroutines -/
theorem c40_no_wait_cycle {σ : Config} (hI : Inv T σ) (a : Nat) :
    ¬ Relation.TransGen (stuckEdge σ) a a :=
  no_wait_cycle hI real_levels_ok a

theorem c40_stuck_chain_ends {σ : Config} (hI : Inv T σ) (a : Nat) (hs : stuck σ a = true) :
    ∃ x b, Reach σ a x ∧ waitsFor σ x b ∧ stuck σ b = false :=
  stuck_chain_ends hI real_levels_ok (lvl σ a) a (Nat.le_refl _) hs

theorem c40_shutdown_terminates (S : ShutdownSys T) (σ : Config) (hI : Inv T σ)
    (hC : AllCancelled σ) :
    ∃ τ, Steps S σ τ ∧ ∀ a, τ.status a = .exited :=
  shutdown_terminates S real_levels_ok real_shutdown_ok (S.fuel σ) σ (Nat.le_refl _) hI hC

/-! ## the HLS server: a genuine wait cycle outside the three core files

`pathManager.run` → `hls.Server.PathReady` (request to the HLS loop, only the HLS Done arm) →
the HLS loop answering an API/metrics query → `muxer.apiItem` / `apiSessionsList` / … (`muxer.mutex.RLock`,
the mutex `muxer.initialize` locked and `muxer.runInner` still holds) → `muxer.runInner` →
`pathManager.AddReader` (request to `pathManager.run`).  Found by the stress harness on the unmodified
code; the lock half is the regenerated fact `lockCycleHazards`. -/

/-- the full deadlock-freedom statement for a table -/
def NoWaitCycleFull (T : List WaitRow) : Prop :=
  ∀ σ : Config, Inv T σ → ∀ a, ¬ Relation.TransGen (stuckEdge σ) a a

/-- the three waits of the cycle (hand-written: code outside the three core files) -/
def hlsCycleRows : List WaitRow :=
  [⟨.pm, .call, .hls, false, true, false⟩,      -- pathManager.run: s.chPathReady <- pa | <-s.ctx.Done()
   ⟨.hls, .call, .muxer, false, false, false⟩,  -- HLS loop: muxer.mutex.RLock() (no escape)
   ⟨.muxer, .call, .pm, false, true, false⟩]    -- muxer.runInner: pm.chAddReader <- req | <-pm.ctx.Done()

def hlsCycle : Config where
  status := fun a =>
    if a = 1 then .blocked ⟨.pm, .call, .hls, false, true, false⟩ 2
    else if a = 2 then .blocked ⟨.hls, .call, .muxer, false, false, false⟩ 3
    else if a = 3 then .blocked ⟨.muxer, .call, .pm, false, true, false⟩ 1
    else .running
  cls := fun a => if a = 1 then .pm else if a = 2 then .hls else if a = 3 then .muxer else .client
  cancelled := fun _ => false

theorem hlsCycle_blocked {a b : Nat} {w : WaitRow} (h : hlsCycle.status a = .blocked w b) :
    w ∈ hlsCycleRows ∧ w.cls = hlsCycle.cls a ∧ w.peer = hlsCycle.cls b ∧ w.kind = .call := by
  simp only [hlsCycle] at h
  split at h
  · rename_i e; cases h; subst e; decide
  split at h
  · rename_i e; cases h; subst e; decide
  split at h
  · rename_i e; cases h; subst e; decide
  · cases h

theorem hlsCycle_not_running {b : Nat} {s : Status} (h : hlsCycle.status b = s) (hs : s = .exited ∨ s = .idle) :
    False := by
  simp only [hlsCycle] at h
  repeat' split at h
  all_goals subst h; cases hs <;> contradiction

/-- **witness**: with the HLS rows the full statement is false — three goroutines, each stuck on the
next, nothing cancelled -/
theorem hls_cycle_witness : ¬ NoWaitCycleFull (T ++ hlsCycleRows) := by
  intro h
  -- every blocked goroutine is in a call and none is idle or has exited, so only `conf` says something
  have hI : Inv (T ++ hlsCycleRows) hlsCycle :=
    { conf := fun a w b hs =>
        let ⟨hm, hc, hp, _⟩ := hlsCycle_blocked hs
        ⟨List.mem_append_right _ hm, hc, hp⟩
      joinCancelled := fun a w b hs hk => by rw [(hlsCycle_blocked hs).2.2.2] at hk; cases hk
      replyRead := fun a w b hs hk => by rw [(hlsCycle_blocked hs).2.2.2] at hk; cases hk
      served := fun a w b hs hk => by rw [(hlsCycle_blocked hs).2.2.2] at hk; cases hk
      exitCancelled := fun b hs => (hlsCycle_not_running hs (.inl rfl)).elim
      idleIsServer := fun b hs => (hlsCycle_not_running hs (.inr rfl)).elim }
  have e12 : stuckEdge hlsCycle 1 2 := ⟨⟨_, rfl, by decide⟩, by decide⟩
  have e23 : stuckEdge hlsCycle 2 3 := ⟨⟨_, rfl, by decide⟩, by decide⟩
  have e31 : stuckEdge hlsCycle 3 1 := ⟨⟨_, rfl, by decide⟩, by decide⟩
  exact h hlsCycle hI 1 (.tail (.tail (.single e12) e23) e31)

/-- no level function can order these rows: the decided condition fails -/
example : levelsOK (T ++ hlsCycleRows) = false := by decide +kernel

theorem hls_fixed_no_wait_cycle {σ : Config} (hI : Inv (T ++ hlsRowsFixed) σ) (a : Nat) :
    ¬ Relation.TransGen (stuckEdge σ) a a :=
  no_wait_cycle hI hls_fixed_levels_ok a

/-- the table is not empty and contains the interesting rows: the upward call with both Done arms and
the join after cancel -/
example : (⟨.path, .call, .pm, true, true, false⟩ : WaitRow) ∈ T ∧
    (⟨.pm, .join, .path, false, false, true⟩ : WaitRow) ∈ T := by decide +kernel

/-- a configuration satisfying `Inv T`: pathManager (1) joins path 2 after cancelling it while path 2
is in an upward call to pathManager; path 3 (not cancelled) is stuck behind pathManager -/
def demo : Config where
  status := fun a =>
    if a = 1 then .blocked ⟨.pm, .join, .path, false, false, true⟩ 2
    else if a = 2 then .blocked ⟨.path, .call, .pm, true, true, false⟩ 1
    else if a = 3 then .blocked ⟨.path, .call, .pm, true, true, false⟩ 1
    else .running
  cls := fun a => if a = 1 then .pm else if a = 2 ∨ a = 3 then .path else .client
  cancelled := fun a => a = 2

example : stuck demo 1 = true ∧ stuck demo 3 = true ∧ stuck demo 2 = false ∧ canMove demo 2 = true := by
  decide

/-- sharpness: drop the path's own Done arm from the upward call and the level condition fails — the
classic deadlock doClosePath ⇄ setPathReady becomes a cycle -/
example : levelsOK [⟨.pm, .join, .path, false, false, true⟩, ⟨.path, .call, .pm, false, true, false⟩] = false := by
  decide

end MtxVerif.C40
