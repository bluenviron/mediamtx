/-
C07 — secrets are not disclosed by API responses or debug dumps.  Property theorems.

A: `redact_safe` (every password position of the served view is empty or the placeholder, for all
configurations), `redact_shape`/`redact_keeps_absent` (nothing else about those positions changes),
`uncovered_sound` (the decidable type-tree condition the driver evaluates on the reflected field list),
`redact_pure` (the live configuration is not modified: uses the C11 heap model; needs no C11 side
condition because the cells `redactCredentials` writes are not behind an interface).
B: `dump_noninterference` (the dump is a function of the request with the values of the redact-listed
headers erased), `line_redacted`, `line_kept`.
-/
import MtxVerif.Model.C07
import MtxVerif.Lemmas.C11Heap
import MtxVerif.Gen.C07

namespace MtxVerif.C07

/-- a password that is set is replaced by exactly the placeholder; an empty one stays empty -/
theorem redactPass_set (p : Bytes) (h : p ≠ []) : redactPass p = placeholder := if_pos h
theorem redactPass_empty : redactPass [] = [] := rfl

theorem redactPass_safe (p : Bytes) : safePass (redactPass p) = true := by
  by_cases h : p = []
  · rw [h]; rfl
  · rw [redactPass_set p h]; rfl

theorem redactOpt_safe (o : Option Bytes) : safeOpt (redactOpt o) = true := by
  cases o <;> simp [redactOpt, safeOpt, redactPass_safe]

theorem redactPath_safe (p : PathS) : safePath (redactPath p) = true := by
  simp [safePath, redactPath, redactOpt_safe]

/-- **No password leaks**: for every configuration, every password position of the redacted view — all
internal users, path defaults, every path — shows the empty string or the fixed placeholder. -/
theorem redact_safe (c : ConfS) : safeConf (redact c) = true := by
  simp [safeConf, redact, redactPath_safe, List.all_map, redactPass_safe, Function.comp_def]

/-- the page of the view is the redaction of the page of the configuration (same names, same order) -/
theorem redact_page_comm (c : ConfS) (ipp p : Nat) :
    pageOf (redact c).paths ipp p = (pageOf c.paths ipp p).map fun e => (e.1, redactPath e.2) := by
  simp [pageOf, redact, List.map_take, List.map_drop]

/-- **Every page is safe**: whatever `itemsPerPage` and `page`, the page of the redacted view shows no
password — redaction does not depend on which slice of the path list is served. -/
theorem redact_page_safe (c : ConfS) (ipp p : Nat) :
    (pageOf (redact c).paths ipp p).all (fun e => safePath e.2) = true := by
  rw [redact_page_comm, List.all_map]
  exact List.all_eq_true.mpr fun e _ => redactPath_safe e.2

/-- the view has the same users and the same paths (by name, in order) as the configuration -/
theorem redact_shape (c : ConfS) :
    (redact c).users.length = c.users.length ∧ (redact c).paths.map (·.1) = c.paths.map (·.1) := by
  simp [redact, List.map_map, Function.comp_def]

/-- an unset (nil) deprecated password stays unset -/
theorem redact_keeps_absent (p : PathS) :
    ((redactPath p).publishPass = none ↔ p.publishPass = none) ∧ ((redactPath p).readPass = none ↔ p.readPass = none) := by
  cases p with
  | mk a b => cases a <;> cases b <;> simp [redactPath, redactOpt]

theorem redact_idempotent (c : ConfS) : redact (redact c) = redact c := by
  have hp : ∀ p, redactPass (redactPass p) = redactPass p := by
    intro p
    by_cases h : p = []
    · rw [h]; rfl
    · rw [redactPass_set p h]; rfl
  have ho : ∀ o, redactOpt (redactOpt o) = redactOpt o := by
    intro o; cases o <;> simp [redactOpt, hp]
  simp [redact, redactPath, List.map_map, Function.comp_def, hp, ho]

/-- what the driver's type-tree check means: if `uncovered` is empty, every credential-typed,
password-named field the API serialises is a position `redact` rewrites -/
theorem uncovered_sound (fields : List (String × String × String)) (h : uncovered fields = [])
    (f : String × String × String) (hf : f ∈ fields) (hty : f.2.2 = "conf.Credential") (hp : passLike f.2.1 = true) :
    (f.1, f.2.1) ∈ redactedPositions := by
  unfold uncovered at h
  rw [List.map_eq_nil_iff, List.filter_eq_nil_iff] at h
  have hn := h f hf
  rw [hty, hp, beq_self_eq_true, Bool.true_and, Bool.true_and, Bool.not_eq_true', Bool.not_eq_false] at hn
  exact List.contains_iff_mem.mp hn

open MtxVerif.C11 in
mutual
/-- pointer / slice / map cells of a value that are not behind an interface node -/
def outer : V → List Nat
  | .atom _ => []
  | .ptr l p => l :: outer p
  | .slice l es => l :: outerS es
  | .map l kvs => l :: outerS kvs
  | .struct fs => outerS fs
  | .iface _ => []
  | .other _ => []
def outerS : Vs → List Nat
  | .nil => []
  | .cons _ _ hd tl => outer hd ++ outerS tl
end

open MtxVerif.C11 in
mutual
/-- whatever the value (interfaces, chans and all), the cells of its copy that are not behind an interface
are new — with or without an Interface case in `deepClone` -/
theorem clone_outer_fresh (ci : Bool) : ∀ (v : V) (n : Nat),
    n ≤ (clone ci v n).2 ∧ ∀ l ∈ outer (clone ci v n).1, n ≤ l ∧ l < (clone ci v n).2
  | .atom _, n => Fresh.nil n
  | .ptr _ p, n => Fresh.cons (clone_outer_fresh ci p (n + 1))
  | .slice _ es, n => Fresh.cons (cloneS_outer_fresh ci es (n + 1))
  | .map _ es, n => Fresh.cons (cloneS_outer_fresh ci es (n + 1))
  | .struct fs, n => cloneF_outer_fresh ci fs n
  | .iface v, n => by
    cases ci with
    | true => exact ⟨(clone_outer_fresh true v n).1, fun _ h => nomatch h⟩
    | false => exact Fresh.nil n
  | .other _, n => Fresh.nil n
theorem cloneS_outer_fresh (ci : Bool) : ∀ (vs : Vs) (n : Nat),
    n ≤ (cloneS ci vs n).2 ∧ ∀ l ∈ outerS (cloneS ci vs n).1, n ≤ l ∧ l < (cloneS ci vs n).2
  | .nil, n => Fresh.nil n
  | .cons _ _ hd tl, n => Fresh.append (clone_outer_fresh ci hd n) (cloneS_outer_fresh ci tl _)
theorem cloneF_outer_fresh (ci : Bool) : ∀ (vs : Vs) (n : Nat),
    n ≤ (cloneF ci vs n).2 ∧ ∀ l ∈ outerS (cloneF ci vs n).1, n ≤ l ∧ l < (cloneF ci vs n).2
  | .nil, n => Fresh.nil n
  | .cons true _ hd tl, n => Fresh.append (clone_outer_fresh ci hd n) (cloneF_outer_fresh ci tl _)
  | .cons false _ _ tl, n => cloneF_outer_fresh ci tl n
end

open MtxVerif.C11 in
/-- **Redaction is pure**: `redactCredentials` clones and then writes only into cells of the copy that are
not behind an interface (the users slice, the `*Credential` cells of the defaults and of each `*Path`).
Any such sequence of writes leaves the live configuration unchanged — for every configuration value,
even though today's `deepClone` shares the cells behind `OptionalPath.Values` (C11). -/
theorem redact_pure (ci : Bool) (v : V) (n : Nat) (hb : Below n v)
    (ws : List (Nat × (V → V) × (Vs → Vs)))
    (hws : ∀ w ∈ ws, w.1 = n ∨ w.1 ∈ outer (clone ci v (n + 1)).1) :
    applyWrites ws v = v := by
  refine applyWrites_above hb ws fun w hw => ?_
  rcases hws w hw with hl | hl
  · exact Nat.le_of_eq hl.symm
  · exact Nat.le_of_succ_le ((clone_outer_fresh ci v (n + 1)).2 _ hl).1

theorem line_redacted (p : Bytes → Bool) (k v : Bytes) (h : p k = true) :
    headerLineBy p k v = k ++ colonSp ++ placeholder ++ crlf := by
  unfold headerLineBy; rw [if_pos h]

theorem line_kept (p : Bytes → Bool) (k v : Bytes) (h : p k = false) :
    headerLineBy p k v = k ++ colonSp ++ v ++ crlf := by
  unfold headerLineBy; simp only [h, Bool.false_eq_true, if_false]

theorem dumpHeaders_erase (p : Bytes → Bool) (hs : List Header) :
    dumpHeadersBy p (eraseBy p hs) = dumpHeadersBy p hs := by
  unfold dumpHeadersBy eraseBy
  rw [List.flatMap_map, List.flatMap_def, List.flatMap_def]
  refine congrArg List.flatten (List.map_congr_left fun h _ => ?_)
  by_cases hc : p h.1 = true
  · simp only [if_pos hc, List.flatMap_map, line_redacted p h.1 _ hc]
  · rw [if_neg hc]

/-- **Non-interference** of the header loop, for whatever lookup `p` it uses: two requests that differ only
in the values of the headers the lookup hits produce byte-identical dumps (every value of a repeated header,
empty or not, first or not). -/
theorem dump_noninterference (canon : Bool) (rs : List Bytes) (reqLine hostLine body : Bytes) (hs hs' : List Header)
    (h : eraseBy (hit canon rs) hs = eraseBy (hit canon rs) hs') :
    dump canon rs reqLine hostLine hs body = dump canon rs reqLine hostLine hs' body := by
  unfold dump dumpHeaders
  rw [← dumpHeaders_erase (hit canon rs) hs, ← dumpHeaders_erase (hit canon rs) hs', h]

/-- **Full statement** for the dump: two requests that differ only in the values of credential headers —
whatever the spelling of their names — produce the same dump. -/
def dump_ci_full (canon : Bool) (rs : List Bytes) : Prop :=
  ∀ (reqLine hostLine body : Bytes) (hs hs' : List Header),
    eraseSecretsCI rs hs = eraseSecretsCI rs hs' →
    dump canon rs reqLine hostLine hs body = dump canon rs reqLine hostLine hs' body

/-- with a canonicalising lookup the full statement holds, for every redact list -/
theorem dump_ci_fixed (rs : List Bytes) : dump_ci_full true rs :=
  fun rl hl body hs hs' h => dump_noninterference true rs rl hl body hs hs' h

theorem listedCI_of_mem {rs : List Bytes} {k : Bytes} (h : k ∈ rs) : listedCI rs k = true :=
  List.any_eq_true.mpr ⟨k, h, beq_self_eq_true _⟩

theorem eraseCI_eq_erase (rs : List Bytes) (hs : List Header) (hc : keysCanonical rs hs = true) :
    eraseSecretsCI rs hs = eraseBy (hit false rs) hs := by
  refine List.map_congr_left fun h hh => ?_
  have hk : (!listedCI rs h.1 || rs.contains h.1) = true := List.all_eq_true.mp hc h hh
  have : listedCI rs h.1 = hit false rs h.1 := by
    show _ = rs.contains h.1
    cases hm : rs.contains h.1
    · rwa [hm, Bool.or_false, Bool.not_eq_true'] at hk
    · exact listedCI_of_mem (List.contains_iff_mem.mp hm)
  rw [this]

/-- **Under the decidable side condition** that credential headers are spelled as in the list (true for
every header map built by net/http, which canonicalises), the full statement holds for the exact lookup. -/
theorem dump_ci_partial (rs : List Bytes) (reqLine hostLine body : Bytes) (hs hs' : List Header)
    (hc : keysCanonical rs hs = true) (hc' : keysCanonical rs hs' = true)
    (h : eraseSecretsCI rs hs = eraseSecretsCI rs hs') :
    dump false rs reqLine hostLine hs body = dump false rs reqLine hostLine hs' body := by
  apply dump_noninterference
  rw [← eraseCI_eq_erase rs hs hc, ← eraseCI_eq_erase rs hs' hc', h]

/-- Outside it the full statement is false for the exact lookup: a header map with the key `cookie` (lower
case, as code building a Request by hand could write it) is dumped in clear. -/
theorem dump_ci_witness : ¬ dump_ci_full false [asc ['C', 'o', 'o', 'k', 'i', 'e']] := by
  intro h
  have := h [] [] [] [(asc ['c', 'o', 'o', 'k', 'i', 'e'], [asc ['a']])] [(asc ['c', 'o', 'o', 'k', 'i', 'e'], [asc ['b']])]
    (by decide)
  revert this
  decide

/-- the executable spec accepts the ideal dump: nothing is reported as leaked when every credential value
was replaced -/
theorem leaked_ideal (rs : List Bytes) (reqLine hostLine : Bytes) (hs : List Header) (body : Bytes) :
    leaked rs reqLine hostLine hs body (reqLine ++ hostLine ++ idealHeaders rs hs ++ crlf ++ body) = ([], []) := by
  have h0 : ∀ (X : Bytes) (cs : List Bytes), cs.any (leaks1 X X) = false := by
    intro X cs
    rw [List.any_eq_false]
    intro c _
    unfold leaks1
    cases isInfixB c X <;> simp
  unfold leaked
  simp only [Prod.mk.injEq, List.flatMap_eq_nil_iff, List.filter_eq_nil_iff, h0]
  constructor <;> intro h _ v _ <;> simp

/-- tie to the source: the lookup canonicalises the map key (`http.CanonicalHeaderKey`) — the model variant
the driver runs, for which `dump_ci_fixed` is the full statement -/
theorem gen_lookup_canonical : Gen.C07.lookupCanonical = true := by decide

/-- tie to the source (regenerated on every check): the redaction test sits inside the loop over ALL values
of a key and assigns the placeholder to the loop variable that is printed -/
theorem gen_loop_shape : Gen.C07.redactsEveryValue = true := by decide

/-! ### non-vacuity / samples (tests, not theorems) -/

example : keysCanonical [asc ['C']] [(asc ['C'], [[1]]), (asc ['A'], [[2]])] = true
    ∧ keysCanonical [asc ['C']] [(asc ['c'], [[1]])] = false := by decide
#guard (chunks (List.replicate 300 (7 : UInt8))).length = 4
example : leaked [asc ['C']] [] [] [(asc ['C'], [[], asc ['s', 'e', 'c']])] []
    (asc ['C', ':', ' ', '\r', '\n', 'C', ':', ' ', 's', 'e', 'c', '\r', '\n', '\r', '\n']) = ([asc ['s', 'e', 'c']], []) := by decide


#guard redact ⟨[asc ['s', '3'], []], ⟨some (asc ['p']), none⟩, [("a", ⟨none, some []⟩)]⟩
    = ⟨[placeholder, []], ⟨some placeholder, none⟩, [("a", ⟨none, some []⟩)]⟩
example : safeConf ⟨[asc ['s', '3']], ⟨none, none⟩, []⟩ = false := by decide
#guard passLike "authInternalUsers[].pass" && passLike "publishPass" && !passLike "readUser"
    && passLike "webrtcICEServers2[].password"
#guard uncovered [("g", "authInternalUsers[].pass", "conf.Credential"), ("p", "readPass", "conf.Credential"),
    ("p", "newPass", "conf.Credential")] = [("p", "newPass")]
example : dumpHeaders false [asc ['C']] [(asc ['A'], [asc ['x']]), (asc ['C'], [asc ['s'], asc ['t']])]
    = asc ['A', ':', ' ', 'x', '\r', '\n', 'C', ':', ' '] ++ placeholder ++ asc ['\r', '\n', 'C', ':', ' ']
      ++ placeholder ++ asc ['\r', '\n'] := by decide
open MtxVerif.C11 in
example : avoidsIface (.struct (.cons true (.slice (.struct (.cons true .scalar .nil))) (.cons true (.iface .scalar) .nil))) [1, 0, 1] = true
    ∧ avoidsIface (.struct (.cons true .scalar (.cons true (.iface (.ptr .scalar)) .nil))) [2, 0] = false := by decide

end MtxVerif.C07
