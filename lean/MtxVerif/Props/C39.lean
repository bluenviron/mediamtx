/-
C39 — forward destinations reconcile with configuration.  Property theorems.
-/
import MtxVerif.Model.C39

namespace MtxVerif.C39

theorem initHandlers_eq (nid : Nat) : ∀ (f : List Conf) (i : Nat),
    initHandlers nid i f = f.mapIdx fun j c => mkHandler (nid + (i + j)) (i + j + 1) c
  | [], _ => rfl
  | c :: cs, i => by
    rw [initHandlers, List.mapIdx_cons, initHandlers_eq nid cs (i + 1)]
    simp only [Nat.add_zero, Nat.add_assoc, Nat.add_comm 1]

theorem startAll_eq (strm nep : Nat) : ∀ (l : List Handler) (i : Nat),
    startAll strm nep i l = l.mapIdx fun j h => hstart strm (nep + (i + j)) h
  | [], _ => rfl
  | h :: hs, i => by
    rw [startAll, List.mapIdx_cons, startAll_eq strm nep hs (i + 1)]
    simp only [Nat.add_zero, Nat.add_assoc, Nat.add_comm 1]

theorem startAll_length (strm nep : Nat) : ∀ (l : List Handler) (i : Nat),
    (startAll strm nep i l).length = l.length := by
  intro l i
  rw [startAll_eq, List.length_mapIdx]

theorem countRunning_eq_zero {l : List Handler} (h : ∀ x ∈ l, x.running = false) : countRunning l = 0 :=
  List.length_eq_zero_iff.mpr (List.filter_eq_nil_iff.mpr fun x hx => by rw [h x hx]; exact Bool.false_ne_true)

theorem countRunning_eq_length {l : List Handler} (h : ∀ x ∈ l, x.running = true) : countRunning l = l.length :=
  congrArg List.length (List.filter_eq_self.mpr h)

theorem map_hstop_of_down {l : List Handler} (h : ∀ x ∈ l, x.running = false) : l.map hstop = l :=
  (List.map_congr_left fun x hx => show { x with running := false } = id x from h x hx ▸ rfl).trans (List.map_id l)

theorem newHandler_eq (st : Bool) (strm nid nep i : Nat) (c : Conf) :
    newHandler st strm nid nep i c =
      { id := nid + i, pos := i + 1, conf := c, armed := st, running := st,
        epoch := if st then nep + i else 0, strm := if st then strm else 0 } := by
  cases st <;> rfl

/-- the handler `ReloadConf` puts at index `k` for configuration `c`, given the old handler there (if any) -/
def keepOrNew (st : Bool) (strm nid nep : Nat) (o? : Option Handler) (k : Nat) (c : Conf) : Handler :=
  match o? with
  | some o => if o.conf = c then o else newHandler st strm nid nep k c
  | none => newHandler st strm nid nep k c

theorem keepOrNew_cases (st : Bool) (strm nid nep : Nat) (o? : Option Handler) (k : Nat) (c : Conf) :
    (o? = some (keepOrNew st strm nid nep o? k c) ∧ (keepOrNew st strm nid nep o? k c).conf = c) ∨
    keepOrNew st strm nid nep o? k c = newHandler st strm nid nep k c := by
  unfold keepOrNew
  split
  · split
    · exact .inl ⟨rfl, ‹_›⟩
    · exact .inr rfl
  · exact .inr rfl

theorem keepOrNew_conf (st : Bool) (strm nid nep : Nat) (o? : Option Handler) (k : Nat) (c : Conf) :
    (keepOrNew st strm nid nep o? k c).conf = c :=
  (keepOrNew_cases st strm nid nep o? k c).elim (·.2) fun e => by rw [e, newHandler_eq]

theorem keepOrNew_new {st : Bool} {strm nid nep : Nat} {o? : Option Handler} {c : Conf}
    (h : ∀ o, o? = some o → o.conf ≠ c) (k : Nat) :
    keepOrNew st strm nid nep o? k c = newHandler st strm nid nep k c := by
  cases o? with
  | none => rfl
  | some o => exact if_neg (h o rfl)

/-- position-wise description of the new handler list built by `ReloadConf` -/
theorem reloadAux_fst_eq (st : Bool) (strm nid nep : Nat) : ∀ (f : List Conf) (i : Nat) (old : List Handler),
    (reloadAux st strm nid nep i old f).1 = f.mapIdx fun j c => keepOrNew st strm nid nep old[j]? (i + j) c
  | [], _, _ => rfl
  | c :: cs, i, [] => by
    rw [reloadAux, List.mapIdx_cons, reloadAux_fst_eq st strm nid nep cs (i + 1) []]
    simp only [Nat.add_zero, Nat.add_assoc, Nat.add_comm 1, List.getElem?_nil]
    rfl
  | c :: cs, i, o :: os => by
    have ih := reloadAux_fst_eq st strm nid nep cs (i + 1) os
    simp only [Nat.add_assoc, Nat.add_comm 1] at ih
    rw [reloadAux, List.mapIdx_cons]
    simp only [List.getElem?_cons_succ, ← ih]
    split
    · exact congrArg (· :: _) (if_pos ‹_›).symm
    · exact congrArg (· :: _) (if_neg ‹_›).symm

theorem reloadAux_fst_cases {st : Bool} {strm nid nep : Nat} {f : List Conf} {old : List Handler} {j : Nat}
    {x : Handler} (h : (reloadAux st strm nid nep 0 old f).1[j]? = some x) :
    ∃ c, f[j]? = some c ∧ (old[j]? = some x ∧ x.conf = c ∨ x = newHandler st strm nid nep j c) := by
  rw [reloadAux_fst_eq, List.getElem?_mapIdx, Nat.zero_add] at h
  obtain ⟨c, hc, rfl⟩ := Option.map_eq_some_iff.mp h
  exact ⟨c, hc, keepOrNew_cases ..⟩

theorem reloadAux_fst_conf (st : Bool) (strm nid nep : Nat) (f : List Conf) (i : Nat) (old : List Handler) :
    (reloadAux st strm nid nep i old f).1.map (·.conf) = f := by
  refine List.ext_getElem? fun j => ?_
  rw [reloadAux_fst_eq, List.getElem?_map, List.getElem?_mapIdx, Option.map_map]
  cases f[j]? with
  | none => rfl
  | some c => exact congrArg some (keepOrNew_conf ..)

/-- `toClose` = exactly the old handlers whose position is gone or has another configuration -/
theorem reloadAux_snd_mem (st : Bool) (strm nid nep : Nat) (x : Handler) : ∀ (f : List Conf) (i : Nat)
    (old : List Handler),
    x ∈ (reloadAux st strm nid nep i old f).2 ↔ ∃ j : Nat, old[j]? = some x ∧ f[j]? ≠ some x.conf
  | [], _, old => by
    simp only [reloadAux, List.getElem?_nil, ne_eq, reduceCtorEq, not_false_eq_true, and_true]
    exact List.mem_iff_getElem?
  | c :: cs, i, [] => by
    rw [reloadAux, reloadAux_snd_mem st strm nid nep x cs (i + 1) []]
    simp only [List.getElem?_nil, reduceCtorEq, false_and, exists_false]
  | c :: cs, i, o :: os => by
    rw [← Nat.or_exists_add_one]
    simp only [List.getElem?_cons_zero, List.getElem?_cons_succ, ← reloadAux_snd_mem st strm nid nep x cs (i + 1) os,
      reloadAux, ne_eq, Option.some.injEq]
    split
    · rename_i h
      exact ⟨.inr, fun h' => h'.resolve_left fun ⟨e, ne⟩ => ne (e ▸ h).symm⟩
    · rename_i h
      rw [List.mem_cons]
      exact or_congr_left ⟨fun e => ⟨e.symm, fun e' => h (e ▸ e'.symm)⟩, fun e => e.1.symm⟩

theorem created_sublist : ∀ (old : List Handler) (f : List Conf), (created old f).Sublist f
  | _, [] => .slnil
  | [], _ :: cs => .cons_cons _ (created_sublist [] cs)
  | o :: os, c :: cs => by
    rw [created]
    split
    · exact .cons _ (created_sublist os cs)
    · exact .cons_cons _ (created_sublist os cs)

theorem step_dead {s : St} (h : s.dead = true) (op : Op) : step s op = s := by
  cases op <;> simp only [step, h, if_true]

theorem alive_of_step {s : St} {op : Op} (hd : (step s op).dead = false) : s.dead = false :=
  Bool.eq_false_iff.mpr fun h => by rw [step_dead h, h] at hd; cases hd

theorem step_reload {s : St} {f : List Conf} (hd : s.dead = false)
    (hcr : (created s.handlers f).all validScheme = true)
    (harm : s.started = true →
      (reloadAux s.started s.stream s.nextId s.nextEpoch 0 s.handlers f).2.all (·.armed) = true) :
    step s (.reload f) =
      { s with
        handlers := (reloadAux s.started s.stream s.nextId s.nextEpoch 0 s.handlers f).1, cfg := f,
        nextId := s.nextId + f.length,
        nextEpoch := if s.started then s.nextEpoch + f.length else s.nextEpoch,
        retired := s.retired ++
          if s.started then (reloadAux s.started s.stream s.nextId s.nextEpoch 0 s.handlers f).2.map hstop
          else (reloadAux s.started s.stream s.nextId s.nextEpoch 0 s.handlers f).2 } := by
  simp only [step, hd, hcr, Bool.false_eq_true, if_false, Bool.not_true]
  cases hst : s.started
  · rfl
  · have ha := harm hst
    rw [hst] at ha
    simp only [if_true, ha]

theorem reload_alive {s : St} {f : List Conf} (hd : (step s (.reload f)).dead = false) :
    s.dead = false ∧ (created s.handlers f).all validScheme = true ∧ (s.started = true →
      (reloadAux s.started s.stream s.nextId s.nextEpoch 0 s.handlers f).2.all (·.armed) = true) := by
  have hd0 := alive_of_step hd
  have hcr : (created s.handlers f).all validScheme = true := by
    cases hcr : (created s.handlers f).all validScheme
    · simp only [step, hd0, hcr, Bool.false_eq_true, if_false, Bool.not_false, if_true] at hd
      cases hd
    · rfl
  refine ⟨hd0, hcr, fun hst => ?_⟩
  cases ha : (reloadAux s.started s.stream s.nextId s.nextEpoch 0 s.handlers f).2.all (·.armed)
  · rw [hst] at ha
    simp only [step, hd0, hcr, hst, ha, Bool.false_eq_true, if_false, Bool.not_true, if_true] at hd
    cases hd
  · rfl

/-- Holds in every state reachable by *any* sequence of operations (as long as Go has not panicked). -/
structure Inv (s : St) : Prop where
  /-- one handler per configured destination, in configuration order -/
  conf : s.handlers.map (·.conf) = s.cfg
  /-- API positions are 1..n -/
  pos : ∀ (j : Nat) (h : Handler), s.handlers[j]? = some h → h.pos = j + 1
  /-- forwarders are pairwise distinct, also from the removed ones -/
  idsLt : ∀ h ∈ s.handlers, h.id < s.nextId
  idsLtR : ∀ h ∈ s.retired, h.id < s.nextId
  idsNodup : (s.handlers.map (·.id)).Nodup
  idsRetired : ∀ h ∈ s.handlers, ∀ x ∈ s.retired, h.id ≠ x.id
  /-- stream available: every handler runs, on the current stream -/
  up : s.started = true → ∀ h ∈ s.handlers, h.armed = true ∧ h.running = true ∧ h.strm = s.stream
  /-- stream unavailable: none runs -/
  down : s.started = false → ∀ h ∈ s.handlers, h.running = false
  /-- removed or replaced forwarders never run -/
  retiredDown : ∀ h ∈ s.retired, h.running = false

def Good (s : St) : Prop := s.dead = false → Inv s

theorem nodup_map_of_idx_inj {α β : Type} {l : List α} {p : α → β}
    (h : ∀ (i j : Nat) (a b : α), l[i]? = some a → l[j]? = some b → p a = p b → i = j) : (l.map p).Nodup := by
  rw [List.Nodup, List.pairwise_map, List.pairwise_iff_getElem]
  intro i j hi hj hij e
  exact absurd (h i j _ _ (List.getElem?_eq_getElem hi) (List.getElem?_eq_getElem hj) e) (Nat.ne_of_lt hij)

theorem Inv.idx_inj {s : St} (I : Inv s) {i j : Nat} {a b : Handler} (ha : s.handlers[i]? = some a)
    (hb : s.handlers[j]? = some b) (h : a.id = b.id) : i = j := by
  refine (List.getElem?_inj ?_ I.idsNodup).mp ?_
  · rw [List.length_map]
    exact (List.getElem?_eq_some_iff.mp ha).1
  · rw [List.getElem?_map, List.getElem?_map, ha, hb]
    exact congrArg some h

theorem Inv.update {s t : St} (I : Inv s) (g : Nat → Handler → Handler)
    (hg : ∀ j h, (g j h).id = h.id ∧ (g j h).pos = h.pos ∧ (g j h).conf = h.conf)
    (hh : ∀ j : Nat, t.handlers[j]? = s.handlers[j]?.map (g j))
    (hcfg : t.cfg = s.cfg) (hnid : t.nextId = s.nextId) (hret : t.retired = s.retired)
    (hup : t.started = true → ∀ j h, (g j h).armed = true ∧ (g j h).running = true ∧ (g j h).strm = t.stream)
    (hdown : t.started = false → ∀ j h, (g j h).running = false) : Inv t := by
  have hget : ∀ {j x}, t.handlers[j]? = some x → ∃ o, s.handlers[j]? = some o ∧ g j o = x :=
    fun h => Option.map_eq_some_iff.mp (hh _ ▸ h)
  have hmem : ∀ x ∈ t.handlers, ∃ j o, o ∈ s.handlers ∧ g j o = x := fun x hx => by
    obtain ⟨j, hj⟩ := List.mem_iff_getElem?.mp hx
    obtain ⟨o, ho, e⟩ := hget hj
    exact ⟨j, o, List.mem_of_getElem? ho, e⟩
  have hmap : ∀ {β : Type} (p : Handler → β), (∀ j h, p (g j h) = p h) → t.handlers.map p = s.handlers.map p :=
    fun p hp => List.ext_getElem? fun j => by
      rw [List.getElem?_map, List.getElem?_map, hh, Option.map_map]
      exact Option.map_congr fun o _ => hp j o
  refine ⟨by rw [hmap _ fun j h => (hg j h).2.2, I.conf, hcfg], fun j x hx => ?_, fun x hx => ?_, hret ▸ hnid ▸ I.idsLtR,
    by rw [hmap _ fun j h => (hg j h).1]; exact I.idsNodup, fun x hx y hy => ?_, fun hst x hx => ?_,
    fun hst x hx => ?_, hret ▸ I.retiredDown⟩
  · obtain ⟨o, ho, rfl⟩ := hget hx
    rw [(hg j o).2.1]
    exact I.pos j o ho
  · obtain ⟨j, o, ho, rfl⟩ := hmem x hx
    rw [(hg j o).1, hnid]
    exact I.idsLt o ho
  · obtain ⟨j, o, ho, rfl⟩ := hmem x hx
    rw [(hg j o).1]
    exact I.idsRetired o ho y (hret ▸ hy)
  · obtain ⟨j, o, -, rfl⟩ := hmem x hx
    exact hup hst j o
  · obtain ⟨j, o, -, rfl⟩ := hmem x hx
    exact hdown hst j o

/-- `Start` keeps the invariant (whatever the state: a second `Start` only leaks goroutines). -/
theorem inv_start (s : St) (k : Nat) (h : Good s) : Good (step s (.start k)) := by
  intro hd
  have hd0 := alive_of_step hd
  simp only [step, hd0, Bool.false_eq_true, if_false]
  refine (h hd0).update (fun j => hstart k (s.nextEpoch + (0 + j))) (fun _ _ => ⟨rfl, rfl, rfl⟩) (fun j => ?_) rfl rfl
    rfl (fun _ _ _ => ⟨rfl, rfl, rfl⟩) nofun
  show (startAll k s.nextEpoch 0 s.handlers)[j]? = _
  rw [startAll_eq, List.getElem?_mapIdx]

/-- `Stop` keeps the invariant. -/
theorem inv_stop (s : St) (h : Good s) : Good (step s .stop) := by
  intro hd
  have hd0 := alive_of_step hd
  simp only [step, hd0, Bool.false_eq_true, if_false] at hd ⊢
  split at hd
  · rw [if_pos ‹_›]
    exact (h hd0).update (fun _ => hstop) (fun _ _ => ⟨rfl, rfl, rfl⟩) (fun j => List.getElem?_map) rfl rfl rfl nofun
      fun _ _ _ => rfl
  · cases hd

/-- `ReloadConf` keeps the invariant. -/
theorem inv_reload (s : St) (f : List Conf) (h : Good s) : Good (step s (.reload f)) := by
  intro hd
  obtain ⟨hd0, hcr, harm⟩ := reload_alive hd
  have I := h hd0
  rw [step_reload hd0 hcr harm]
  -- all that is used of the two lists `ReloadConf` computes
  have hget := @reloadAux_fst_cases s.started s.stream s.nextId s.nextEpoch f s.handlers
  have hclose := fun x => reloadAux_snd_mem s.started s.stream s.nextId s.nextEpoch x f 0 s.handlers
  have hconf := reloadAux_fst_conf s.started s.stream s.nextId s.nextEpoch f 0 s.handlers
  generalize reloadAux s.started s.stream s.nextId s.nextEpoch 0 s.handlers f = R at hget hclose hconf ⊢
  -- what holds of the old handlers and of the fresh ones holds of the new list
  have hall : ∀ P : Handler → Prop, (∀ x ∈ s.handlers, P x) →
      (∀ j c, j < f.length → P (newHandler s.started s.stream s.nextId s.nextEpoch j c)) → ∀ x ∈ R.1, P x :=
    fun P hold hnew x hx => by
      obtain ⟨j, hj⟩ := List.mem_iff_getElem?.mp hx
      obtain ⟨c, hf, ⟨ho, -⟩ | rfl⟩ := hget hj
      · exact hold x (List.mem_of_getElem? ho)
      · exact hnew j c (List.getElem?_eq_some_iff.mp hf).1
  have hsnd : ∀ x ∈ R.2, x ∈ s.handlers := fun x hx => by
    obtain ⟨j, hj, -⟩ := (hclose x).mp hx
    exact List.mem_of_getElem? hj
  -- stopping what is closed changes nothing when the manager is stopped: nothing runs then
  have hret : (if s.started = true then R.2.map hstop else R.2) = R.2.map hstop := by
    split
    · rfl
    · exact (map_hstop_of_down fun x hx => I.down (Bool.eq_false_iff.mpr ‹_›) x (hsnd x hx)).symm
  rw [hret]
  have hretLt : ∀ y ∈ s.retired ++ R.2.map hstop, y.id < s.nextId := fun y hy => by
    rcases List.mem_append.mp hy with hy | hy
    · exact I.idsLtR y hy
    · obtain ⟨o, ho, rfl⟩ := List.mem_map.mp hy
      exact I.idsLt o (hsnd o ho)
  refine ⟨hconf, fun j x hx => ?_, ?_, fun x hx => Nat.lt_add_right _ (hretLt x hx), ?_,
    fun x hx y hy => ?_, fun hst => ?_, fun hst => ?_, fun x hx => ?_⟩
  · obtain ⟨c, -, ⟨ho, -⟩ | rfl⟩ := hget hx
    · exact I.pos j x ho
    · rw [newHandler_eq]
  · exact hall (·.id < s.nextId + f.length) (fun x hx => Nat.lt_add_right _ (I.idsLt x hx)) fun j c hj => by
      rw [newHandler_eq]
      exact Nat.add_lt_add_left hj _
  · -- kept handlers sit at their old index with their old id, new ones have id `nextId + index`
    refine nodup_map_of_idx_inj fun a b x y hx hy e => ?_
    obtain ⟨c, -, ⟨hx, -⟩ | rfl⟩ := hget hx <;> obtain ⟨d, -, ⟨hy, -⟩ | rfl⟩ := hget hy
    · exact I.idx_inj hx hy e
    · have := I.idsLt x (List.mem_of_getElem? hx)
      simp only [newHandler_eq] at e
      omega
    · have := I.idsLt y (List.mem_of_getElem? hy)
      simp only [newHandler_eq] at e
      omega
    · simp only [newHandler_eq] at e
      omega
  · obtain ⟨j, hj⟩ := List.mem_iff_getElem?.mp hx
    obtain ⟨c, hf, ⟨ho, hc⟩ | rfl⟩ := hget hj
    · rcases List.mem_append.mp hy with hy | hy
      · exact I.idsRetired x (List.mem_of_getElem? ho) y hy
      · -- a closed handler with the id of a kept one is that one, at the same index: but it was kept
        obtain ⟨o, ho', rfl⟩ := List.mem_map.mp hy
        obtain ⟨j', hj', hne⟩ := (hclose o).mp ho'
        intro e
        obtain rfl := I.idx_inj ho hj' e
        obtain rfl : x = o := Option.some.inj (ho.symm.trans hj')
        exact hne (hc ▸ hf)
    · have := hretLt y hy
      simp only [newHandler_eq]
      omega
  · refine hall _ (I.up hst) fun j c _ => ?_
    rw [show s.started = true from hst]
    exact ⟨rfl, rfl, rfl⟩
  · refine hall _ (I.down hst) fun j c _ => ?_
    rw [newHandler_eq]
    exact hst
  · rcases List.mem_append.mp hx with hx | hx
    · exact I.retiredDown x hx
    · obtain ⟨o, -, rfl⟩ := List.mem_map.mp hx
      rfl

/-- `Initialize` is `ReloadConf` on a manager without handlers -/
theorem reloadAux_nil (strm nid nep : Nat) : ∀ (f : List Conf) (i : Nat),
    reloadAux false strm nid nep i [] f = (initHandlers nid i f, [])
  | [], _ => rfl
  | c :: cs, i => by
    rw [reloadAux, reloadAux_nil strm nid nep cs (i + 1)]
    rfl

theorem created_nil : ∀ f : List Conf, created [] f = f
  | [] => rfl
  | c :: cs => congrArg (c :: ·) (created_nil cs)

theorem inv_init (f : List Conf) : Good (initSt f) := by
  by_cases hv : f.all validScheme = true
  · have e : initSt f = step {} (.reload f) := by
      rw [step_reload rfl (by rw [created_nil]; exact hv) (fun h => Bool.noConfusion h), reloadAux_nil, initSt, if_pos hv]
      simp only [Nat.zero_add, List.append_nil, Bool.false_eq_true, if_false]
    rw [e]
    have hn : ∀ {p : Handler → Prop}, ∀ x ∈ ([] : List Handler), p x := fun _ hx => absurd hx List.not_mem_nil
    exact inv_reload {} f fun _ =>
      ⟨rfl, (fun j h e => by simp at e), hn, hn, List.Pairwise.nil, hn, fun _ => hn, fun _ => hn, hn⟩
  · intro hd
    rw [initSt, if_neg hv] at hd
    cases hd

/-- Every operation keeps the invariant. -/
theorem inv_step (s : St) (op : Op) (h : Good s) : Good (step s op) := by
  cases op with
  | start k => exact inv_start s k h
  | stop => exact inv_stop s h
  | reload f => exact inv_reload s f h

/-- **All histories.**  After `Initialize` and any sequence of `Start` / `Stop` / `ReloadConf`
(in any order, even a misuse of the interface), unless Go has panicked: the handler list mirrors the
configured list position by position, forwarders are pairwise distinct; if the manager is started
every listed forwarder runs on the current stream; if it is stopped none runs; a removed or replaced
forwarder never runs. -/
theorem inv_run (ops : List Op) : ∀ s, Good s → Good (run s ops) := by
  induction ops with
  | nil => intro s h; exact h
  | cons op ops ih => intro s h; exact ih _ (inv_step s op h)

/-! ### Histories that respect the environment contract (`wf`) -/

/-- no panic and no leaked goroutine -/
structure Clean (s : St) : Prop where
  alive : s.dead = false
  noLeak : s.leaked = 0

theorem clean_step (s : St) (op : Op) (ops : List Op) (hg : Good s) (hc : Clean s)
    (hwf : wf s.started (op :: ops) = true) :
    Clean (step s op) ∧ wf (step s op).started ops = true := by
  have I := hg hc.alive
  cases op with
  | start k =>
    simp only [wf, Bool.and_eq_true, Bool.not_eq_true'] at hwf
    simp only [step, hc.alive, Bool.false_eq_true, if_false]
    exact ⟨⟨rfl, by rw [hc.noLeak, countRunning_eq_zero (I.down hwf.1)]⟩, hwf.2⟩
  | stop =>
    simp only [wf, Bool.and_eq_true] at hwf
    have ha : s.handlers.all (·.armed) = true := List.all_eq_true.mpr fun x hx => (I.up hwf.1 x hx).1
    simp only [step, hc.alive, Bool.false_eq_true, if_false, ha, if_true]
    exact ⟨⟨rfl, hc.noLeak⟩, hwf.2⟩
  | reload f =>
    simp only [wf, Bool.and_eq_true] at hwf
    have hcr : (created s.handlers f).all validScheme = true :=
      List.all_eq_true.mpr fun c hc' => List.all_eq_true.mp hwf.1 c ((created_sublist _ _).subset hc')
    rw [step_reload hc.alive hcr fun hst => List.all_eq_true.mpr fun x hx => by
      obtain ⟨j, hj, -⟩ := (reloadAux_snd_mem ..).mp hx
      exact (I.up hst x (List.mem_of_getElem? hj)).1]
    exact ⟨⟨hc.alive, hc.noLeak⟩, hwf.2⟩

theorem clean_run (ops : List Op) : ∀ s, Good s → Clean s → wf s.started ops = true →
    Clean (run s ops) := by
  induction ops with
  | nil => intro s _ hc _; exact hc
  | cons op ops ih =>
    intro s hg hc hwf
    have := clean_step s op ops hg hc hwf
    exact ih _ (inv_step s op hg) this.1 this.2

/-- **The property, over all histories.**  For every configured list with known schemes and every
sequence of reloads and alternating stream start/stop: Go never panics, and in the final state
(hence after every prefix)
* while the stream is available the listed forwarders are exactly the configured destinations in
  configuration order, every one of them runs, on the available stream, and the manager owns exactly
  as many forwarder goroutines as there are configured destinations (one each, none left over);
* while the stream is unavailable no forwarder goroutine exists. -/
theorem forward_reconciles (f : List Conf) (ops : List Op) (hf : f.all validScheme = true)
    (hwf : wf false ops = true) :
    let s := run (initSt f) ops
    s.dead = false ∧ s.handlers.map (·.conf) = s.cfg ∧ (s.handlers.map (·.id)).Nodup ∧
    (s.started = true → (∀ h ∈ s.handlers, h.running = true ∧ h.strm = s.stream) ∧
        goroutines s = s.cfg.length) ∧
    (s.started = false → goroutines s = 0) := by
  intro s
  have h0 : (initSt f).dead = false ∧ (initSt f).leaked = 0 ∧ (initSt f).started = false := by
    rw [initSt, if_pos hf]
    exact ⟨rfl, rfl, rfl⟩
  have hg := inv_run ops (initSt f) (inv_init f)
  have hc := clean_run ops (initSt f) (inv_init f) ⟨h0.1, h0.2.1⟩ (h0.2.2 ▸ hwf)
  have I := hg hc.alive
  refine ⟨hc.alive, I.conf, I.idsNodup, fun hst => ⟨fun h hh => (I.up hst h hh).2, ?_⟩, fun hst => ?_⟩
  · rw [goroutines, hc.noLeak, countRunning_eq_zero I.retiredDown,
      countRunning_eq_length fun x hx => (I.up hst x hx).2.1, ← I.conf, List.length_map, Nat.zero_add]
    rfl
  · rw [goroutines, hc.noLeak, countRunning_eq_zero I.retiredDown, countRunning_eq_zero (I.down hst)]

/-- The configured list is the argument of the last reload (or of `Initialize`). -/
theorem cfg_reload (s : St) (f : List Conf) (hd : (step s (.reload f)).dead = false) :
    (step s (.reload f)).cfg = f := by
  obtain ⟨hd0, hcr, harm⟩ := reload_alive hd
  rw [step_reload hd0 hcr harm]

/-- **Reload, position by position** (any state satisfying the invariant, no panic).
For every index `j` of the new list `f`:
* if the old list has a handler at `j` with the same configuration, the very same handler is at `j`
  afterwards — same forwarder id, same `done` channel (epoch), same running state: untouched;
* otherwise the handler at `j` is a fresh one (`id = nextId + j`, never used before), running iff the
  manager is started; and the old handler at `j`, if any, has been retired and does not run.
Every old handler beyond the end of `f` has been retired and does not run. -/
theorem reload_positionwise (s : St) (f : List Conf) (hg : Good s)
    (hd : (step s (.reload f)).dead = false) :
    let s' := step s (.reload f)
    (∀ (j : Nat) (c : Conf), f[j]? = some c →
      (∀ o : Handler, s.handlers[j]? = some o → o.conf = c → s'.handlers[j]? = some o) ∧
      ((s.handlers[j]? = none ∨ ∃ o : Handler, s.handlers[j]? = some o ∧ o.conf ≠ c) →
        ∃ h : Handler, s'.handlers[j]? = some h ∧ h.id = s.nextId + j ∧ h.conf = c ∧ h.pos = j + 1 ∧
          h.running = s.started ∧ (∀ o ∈ s.handlers ++ s.retired, o.id < h.id))) ∧
    (∀ (j : Nat) (o : Handler), s.handlers[j]? = some o → (f[j]? = none ∨ ∃ c, f[j]? = some c ∧ o.conf ≠ c) →
      ∃ x ∈ s'.retired, x.id = o.id ∧ x.running = false) ∧
    s'.handlers.length = f.length := by
  obtain ⟨hd0, hcr, harm⟩ := reload_alive hd
  have I := hg hd0
  rw [step_reload hd0 hcr harm]
  refine ⟨fun j c hf => ?_, fun j o ho hcl => ?_, ?_⟩
  · have g : (reloadAux s.started s.stream s.nextId s.nextEpoch 0 s.handlers f).1[j]? =
        some (keepOrNew s.started s.stream s.nextId s.nextEpoch s.handlers[j]? j c) := by
      rw [reloadAux_fst_eq, List.getElem?_mapIdx, hf, Nat.zero_add, Option.map_some]
    refine ⟨fun o ho heq => ?_, fun hch => ?_⟩
    · rw [ho] at g
      exact g.trans (congrArg some (if_pos heq))
    · rw [keepOrNew_new (k := j) fun o ho => hch.elim (fun hn => by rw [hn] at ho; cases ho)
        fun ⟨o', ho', hne⟩ => Option.some.inj (ho'.symm.trans ho) ▸ hne] at g
      rw [newHandler_eq] at g
      refine ⟨_, g, rfl, rfl, rfl, rfl, fun o ho => ?_⟩
      show o.id < s.nextId + j
      rcases List.mem_append.mp ho with ho | ho
      · exact Nat.lt_add_right _ (I.idsLt o ho)
      · exact Nat.lt_add_right _ (I.idsLtR o ho)
  · have ho' := (reloadAux_snd_mem s.started s.stream s.nextId s.nextEpoch o f 0 s.handlers).mpr
      ⟨j, ho, fun e => hcl.elim (fun hn => by rw [hn] at e; cases e)
        fun ⟨c, hc, hne⟩ => hne (Option.some.inj (e.symm.trans hc))⟩
    show ∃ x ∈ s.retired ++ _, _
    split
    · exact ⟨hstop o, List.mem_append_right _ (List.mem_map_of_mem ho'), rfl, rfl⟩
    · exact ⟨o, List.mem_append_right _ ho', rfl, I.down (Bool.eq_false_iff.mpr ‹_›) o (List.mem_of_getElem? ho)⟩
  · rw [reloadAux_fst_eq, List.length_mapIdx]

/-- While the stream is available a reload leaves every position-wise unchanged destination running
on the same goroutine, and every listed destination runs afterwards. -/
theorem reload_while_available (s : St) (f : List Conf) (hg : Good s) (hst : s.started = true)
    (hd : (step s (.reload f)).dead = false) (j : Nat) (o : Handler) (c : Conf)
    (ho : s.handlers[j]? = some o) (hf : f[j]? = some c) (heq : o.conf = c) :
    (step s (.reload f)).handlers[j]? = some o ∧ o.running = true ∧
    (∀ h ∈ (step s (.reload f)).handlers, h.running = true) := by
  obtain ⟨hd0, hcr, harm⟩ := reload_alive hd
  have hst' : (step s (.reload f)).started = true := by rw [step_reload hd0 hcr harm]; exact hst
  exact ⟨((reload_positionwise s f hg hd).1 j c hf).1 o ho heq, ((hg hd0).up hst o (List.mem_of_getElem? ho)).2.1,
    fun h hh => ((inv_reload s f hg hd).up hst' h hh).2.1⟩

/-! ### The contract is necessary: what misuse does (explicit outcomes, no silent totalisation) -/

/-- `Stop` before any `Start` on a non-empty list calls a nil `ctxCancel`: Go panics. -/
theorem stop_before_start_panics (c : Conf) (cs : List Conf) (hv : (c :: cs).all validScheme = true) :
    (step (initSt (c :: cs)) .stop).dead = true := by
  simp only [initSt, hv, if_true, step, Bool.false_eq_true, if_false]
  simp [initHandlers, mkHandler]

/-- A second `Start` without `Stop` leaves one uncancellable goroutine per destination behind. -/
theorem double_start_leaks (f : List Conf) (hv : f.all validScheme = true) (a b : Nat) :
    (run (initSt f) [.start a, .start b]).leaked = f.length := by
  have hidle : ∀ x ∈ initHandlers 0 0 f, x.running = false := fun x hx => by
    rw [initHandlers_eq] at hx
    obtain ⟨j, hj, rfl⟩ := List.mem_mapIdx.mp hx
    rfl
  have hrun : ∀ x ∈ startAll a 1 0 (initHandlers 0 0 f), x.running = true := fun x hx => by
    rw [startAll_eq] at hx
    obtain ⟨j, hj, rfl⟩ := List.mem_mapIdx.mp hx
    rfl
  simp only [run, initSt, hv, if_true, step, Bool.false_eq_true, if_false]
  rw [countRunning_eq_zero hidle, countRunning_eq_length hrun, startAll_length, initHandlers_eq, List.length_mapIdx,
    Nat.zero_add]

def cA : Conf := ⟨"rtmp://h/a", "", ""⟩
def cB : Conf := ⟨"rtsp://h/b", "", ""⟩
def cB' : Conf := ⟨"rtsp://h/b", "fp", ""⟩
def cC : Conf := ⟨"srt://h:1", "", ""⟩

/-- a contract-respecting history with an unchanged, a changed, an added and a removed destination -/
example : wf false [.start 1, .reload [cA, cB', cC], .stop, .reload [cA], .start 2] = true := by
  decide +kernel

example :
    let s := run (initSt [cA, cB]) [.start 1, .reload [cA, cB', cC]]
    s.handlers.map (fun h => (h.id, h.running, h.epoch)) = [(0, true, 1), (3, true, 4), (4, true, 5)] ∧
    s.retired.map (fun h => (h.id, h.running)) = [(1, false)] ∧ goroutines s = 3 := by
  decide +kernel

end MtxVerif.C39
