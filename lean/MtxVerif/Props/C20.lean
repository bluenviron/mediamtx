/-
C20 — Hooks fire in well-formed start/stop pairs.  Property theorems: path-level pairs over the
shared path state machine for every valid configuration and every event history; per-object pairs
(runOnRead per reader, runOnConnect per connection) over the small consumer machines of Model/C20.
-/
import MtxVerif.Model.C20
import MtxVerif.Lemmas.C20Hooks
import MtxVerif.Gen.C20

namespace MtxVerif.C20
open MtxVerif.PathSM

def Reach (s : State) : Prop := ∃ c es, c.valid = true ∧ s = (run (init c) es).1

theorem reach_inv {s : State} (h : Reach s) : Inv s := by
  obtain ⟨c, es, hv, rfl⟩ := h
  exact inv_reach c hv es

/-- a start can only follow a closed pair, a stop only an open one -/
theorem alt_head {f f' b : Bool} {l : List Bool} (h : alt f (b :: l) = some f') : b ≠ f := by
  unfold alt at h; split at h
  · cases h
  · assumption

/-- consecutive events of one kind always differ: start, stop, start, stop, … -/
theorem alt_adjacent {f f' : Bool} {l : List Bool} (h : alt f l = some f') :
    ∀ i (hi : i + 1 < l.length), l[i] ≠ l[i + 1] := by
  induction l generalizing f with
  | nil => intro i hi; simp at hi
  | cons b bs ih =>
    unfold alt at h
    split at h
    · cases h
    · intro i hi
      cases i with
      | zero =>
        cases bs with
        | nil => simp at hi
        | cons c cs => simpa using (alt_head h).symm
      | succ j => simpa using ih h j (by simpa using hi)

/-- the resulting flag is the last event (or the initial flag if there was none) -/
theorem alt_last {f f' : Bool} {l : List Bool} (h : alt f l = some f') : f' = l.getLast?.getD f := by
  induction l generalizing f with
  | nil => simpa [alt] using h.symm
  | cons b bs ih =>
    unfold alt at h
    split at h
    · cases h
    · have := ih h
      cases bs with
      | nil => simpa using this
      | cons c cs =>
        rw [this]
        have : (c :: cs).getLast? = some ((c :: cs).getLast (by simp)) := List.getLast?_eq_some_getLast (by simp)
        rw [List.getLast?_cons_cons, this]; rfl

/-- **One step.** For each hook kind, the start/stop events fired by a step form a legal
alternating sequence from the state's open/closed flag to the new state's flag. -/
theorem step_hooks {s : State} (h : Reach s) (e : Event) (k : Hook) :
    alt (flag k s) (hookEvents k (step s e).2) = some (flag k (step s e).1) := by
  have : HK k (flag k s) { s := s } := by simp [HK, alt]
  exact hk_stepW e { s := s } (reach_inv h) this

theorem init_hooks (c : Conf) (k : Hook) :
    alt false (hookEvents k (initW c).out) = some (flag k (init c)) := by
  show HK k false (initW c)
  have h0 : HK k false { s := { conf := c } } := by cases k <;> rfl
  unfold initW
  dsimp only
  have h1 : HK k false (if c.alwaysAvailable = true then
      emit .pathReady (emit (.hook .avail true)
        (upd (fun s => { s with stream := some 0, nextStream := 1, hkAvail := true, aaCur := none }) { s := { conf := c } }))
      else { s := { conf := c } }) := by
    split
    · exact hk_emit _ (hk_fire .avail true _ h0 rfl (fun h' => by cases h' <;> rfl)) (by intros; simp)
    · exact h0
  generalize (if c.alwaysAvailable = true then _ else _ : W) = w1 at h1 ⊢
  split
  · exact hk_upd _ h1 rfl rfl rfl
  · split
    · exact srcStart_keeps (keeps_hk _ _) (hk_upd _ h1 rfl rfl rfl)
    · exact hk_upd _ h1 rfl rfl rfl
  · exact h1

theorem run_hooks (k : Hook) (es : List Event) : ∀ s, PathSM.Inv s →
    alt (flag k s) (hookEvents k (run s es).2.flatten) = some (flag k (run s es).1) := by
  induction es with
  | nil => intro s _; simp [run, alt]
  | cons e es ih =>
    intro s hi
    have h1 : alt (flag k s) (hookEvents k (stepW e { s := s }).out) = some (flag k (stepW e { s := s }).s) := by
      have : HK k (flag k s) { s := s } := by simp [HK, alt]
      exact hk_stepW e { s := s } hi this
    have h2 := ih (stepW e { s := s }).s (inv_stepW e { s := s } hi)
    have er : run s (e :: es) =
        ((run (stepW e { s := s }).s es).1, (stepW e { s := s }).out :: (run (stepW e { s := s }).s es).2) := rfl
    rw [er]
    simp only [List.flatten_cons, hookEvents_append, alt_append, h1, Option.bind_some]
    exact h2

/-- **Whole histories.** From the creation of the path (prologue of `path.run` included), over any
event history, the executions of each hook pair strictly alternate, the first one being the start
hook, and the pair is open at the end iff the state says so. -/
theorem history_hooks (c : Conf) (hv : c.valid = true) (es : List Event) (k : Hook) :
    alt false (hookEvents k ((initW c).out ++ trace (init c) es)) = some (flag k (run (init c) es).1) := by
  simp only [hookEvents_append, alt_append, init_hooks, Option.bind_some]
  exact run_hooks k es (init c) (inv_init c hv)

/-- **Closed on close.** Once the path has closed, no pair is open: every start has had its stop. -/
theorem closed_pairs_closed (c : Conf) (hv : c.valid = true) (es : List Event) (k : Hook)
    (hcl : (run (init c) es).1.closed = true) :
    alt false (hookEvents k ((initW c).out ++ trace (init c) es)) = some false := by
  rw [history_hooks c hv es k]
  have hi := inv_reach c hv es
  have := hi.cl hcl
  cases k
  · show some (run (init c) es).1.hkAvail = some false
    rw [hi.avail.hkA, this.1]; rfl
  · show some (run (init c) es).1.hkOnline = some false
    rw [this.2.2.2.2.2.2.2.2.2]
  · show some (run (init c) es).1.hkDemand = some false
    rw [this.2.2.2.2.2.2.2.2.1]

/-- runOnOnline/runOnOffline pairs lie inside runOnReady/runOnNotReady pairs -/
theorem online_within_ready {s : State} (h : Reach s) (ho : s.hkOnline = true) : s.hkAvail = true := by
  have hi := reach_inv h
  rw [hi.avail.hkA]; exact hi.avail.hkO ho

/-- the runOnDemand pair is open exactly while the on-demand automaton is not `initial` -/
theorem demand_iff_automaton {s : State} (h : Reach s) (hc : s.closed = false) :
    s.hkDemand = true ↔ s.odPub ≠ .initial := (reach_inv h).pub.q3 hc

def rOpen : RState → Bool
  | .play => true
  | _ => false

/-- RTSP session: runOnRead/runOnUnread alternate over every sequence of handler calls -/
theorem rtsp_pairs (es : List REv) : ∀ s, alt (rOpen s) (rtspRun s es).2 = some (rOpen (rtspRun s es).1) := by
  induction es with
  | nil => intro s; simp [rtspRun, alt]
  | cons e es ih =>
    intro s
    have h1 : alt (rOpen s) (rtspStep s e).2 = some (rOpen (rtspStep s e).1) := by
      cases s <;> cases e <;> simp [rtspStep, alt, rOpen]
    show alt (rOpen s) ((rtspStep s e).2 ++ (rtspRun (rtspStep s e).1 es).2) = _
    rw [alt_append, h1]
    exact ih _

/-- ... and a closed session has no open pair -/
theorem rtsp_closed (es : List REv) (s : RState) (h : (rtspRun s es).1 = .closed) :
    alt (rOpen s) (rtspRun s es).2 = some false := by
  rw [rtsp_pairs, h]; rfl

/-- a session that receives `close` ends closed, whatever came before and comes after -/
theorem rtsp_close_closes (es es' : List REv) (s : RState) : (rtspRun s (es ++ .close :: es')).1 = .closed := by
  have hc : ∀ (l : List REv), (rtspRun .closed l).1 = .closed := by
    intro l; induction l with
    | nil => rfl
    | cons x xs ih => cases x <;> exact ih
  induction es generalizing s with
  | nil =>
    show (rtspRun (rtspStep s .close).1 es').1 = .closed
    have : (rtspStep s .close).1 = .closed := by cases s <;> rfl
    rw [this]; exact hc _
  | cons e es ih => exact ih _

/-- `defer`-style and assign-once/call-once consumers: one start, one stop, in this order -/
theorem obj_pairs (es : List ObjEv) : ∀ a, alt a (objRun a es).2 = some (objRun a es).1 := by
  induction es with
  | nil => intro a; cases a <;> simp [objRun, alt]
  | cons e es ih =>
    intro a
    cases a <;> cases e <;> simp [objRun, alt, ih]

/-- runOnRead (true) / runOnUnread (false) executions of session `n` -/
def hProj (n : Nat) (out : List HOut) : List Bool :=
  out.filterMap fun o => match o with | .hook m b => if m = n then some b else none | _ => none

/-- the muxer references session `n` (its runOnRead pair is open) -/
def hOpen (s : HState) (n : Nat) : Bool := decide (n ∈ s.plain) || decide (s.cdn = some n)

structure HInv (s : HState) : Prop where
  nodup : s.plain.Nodup
  plainSeen : ∀ n ∈ s.plain, n ∈ s.seen
  cdnSeen : ∀ m, s.cdn = some m → m ∈ s.seen ∧ m ∉ s.plain

theorem hProj_append (n : Nat) (a b : List HOut) : hProj n (a ++ b) = hProj n a ++ hProj n b := by
  simp [hProj]

theorem hProj_stops (n : Nat) (l : List Nat) (hl : l.Nodup) :
    hProj n (l.map fun m => HOut.hook m false) = if n ∈ l then [false] else [] := by
  induction l with
  | nil => rfl
  | cons x xs ih =>
    rw [List.nodup_cons] at hl
    simp only [List.map_cons, hProj, List.filterMap_cons]
    have ih' := ih hl.2
    unfold hProj at ih'
    by_cases hx : x = n
    · subst hx; simp [ih', hl.1]
    · have : ¬ n = x := fun e => hx e.symm
      simp [hx, this, ih']

theorem hls_stopAll (s : HState) (hi : HInv s) (n : Nat) :
    hProj n (stopAll s) = if hOpen s n then [false] else [] := by
  unfold stopAll hOpen
  rw [hProj_append, hProj_stops n s.plain hi.nodup]
  cases hc : s.cdn with
  | none => by_cases hp : n ∈ s.plain <;> simp [hp, hProj]
  | some m =>
    have := hi.cdnSeen m hc
    by_cases hp : n ∈ s.plain
    · have : m ≠ n := fun e => this.2 (e ▸ hp)
      simp [hp, hProj, this]
    · by_cases hm : m = n <;> simp [hp, hProj, hm]

theorem hls_step (s : HState) (hi : HInv s) (e : HEv) (n : Nat) :
    HInv (hlsStep s e).1 ∧ alt (hOpen s n) (hProj n (hlsStep s e).2) = some (hOpen (hlsStep s e).1 n) := by
  obtain ⟨h1, h2, h3⟩ := hi
  have hi : HInv s := ⟨h1, h2, h3⟩
  cases e with
  | openS k =>
    by_cases hk : k ∈ s.seen
    · have e : hlsStep s (.openS k) = (s, []) := by simp [hlsStep, hk]
      rw [e]; exact ⟨hi, by simp [hProj, alt]⟩
    by_cases hu : s.up = true
    · have e : hlsStep s (.openS k) =
          ({ s with plain := s.plain ++ [k], seen := k :: s.seen }, [.hook k true]) := by simp [hlsStep, hk, hu]
      rw [e]
      have hkp : k ∉ s.plain := fun h => hk (h2 k h)
      refine ⟨⟨?_, ?_, ?_⟩, ?_⟩
      · exact List.nodup_append.mpr ⟨h1, by simp, by intro a ha b hb; simp at hb; subst hb; exact fun e => hkp (e ▸ ha)⟩
      · intro a ha; simp at ha; rcases ha with ha | ha
        · exact List.mem_cons_of_mem _ (h2 a ha)
        · subst ha; exact List.mem_cons_self
      · intro m hm
        have := h3 m hm
        refine ⟨List.mem_cons_of_mem _ this.1, ?_⟩
        simp; exact ⟨this.2, fun e => hk (e ▸ this.1)⟩
      · by_cases hkn : k = n
        · subst hkn
          have hc : s.cdn ≠ some k := fun e => hk (h3 k e).1
          simp [hProj, alt, hOpen, hkp, hc]
        · have : ¬ n = k := fun e => hkn e.symm
          simp [hProj, alt, hOpen, hkn, this]
    · have e : hlsStep s (.openS k) = ({ s with seen := k :: s.seen }, [.err k]) := by simp [hlsStep, hk, hu]
      rw [e]
      refine ⟨⟨h1, fun a ha => List.mem_cons_of_mem _ (h2 a ha), fun m hm => ⟨List.mem_cons_of_mem _ (h3 m hm).1, (h3 m hm).2⟩⟩, ?_⟩
      simp [hProj, alt, hOpen]
  | cdnS k =>
    by_cases hk : k ∈ s.seen
    · have e : hlsStep s (.cdnS k) = (s, []) := by simp [hlsStep, hk]
      rw [e]; exact ⟨hi, by simp [hProj, alt]⟩
    by_cases hu : s.up = true
    · have e : hlsStep s (.cdnS k) = ({ s with cdn := some k, seen := k :: s.seen },
          (match s.cdn with | some m => [HOut.hook m false] | none => []) ++ [.hook k true]) := by
        simp only [hlsStep, hk, hu, if_true, if_false]
        cases s.cdn <;> rfl
      rw [e]
      have hkp : k ∉ s.plain := fun h => hk (h2 k h)
      refine ⟨⟨h1, fun a ha => List.mem_cons_of_mem _ (h2 a ha), ?_⟩, ?_⟩
      · intro m hm; simp at hm; subst hm; exact ⟨List.mem_cons_self, hkp⟩
      · rw [hProj_append]
        cases hc : s.cdn with
        | none =>
          by_cases hkn : k = n
          · subst hkn; simp [hProj, alt, hOpen, hkp, hc]
          · have : ¬ n = k := fun e => hkn e.symm
            simp [hProj, alt, hOpen, hkn, this, hc]
        | some m =>
          have hm := h3 m hc
          have hmk : m ≠ k := fun e => hk (e ▸ hm.1)
          by_cases hkn : k = n
          · subst hkn
            simp [hProj, alt, hOpen, hkp, hc, hmk]
          · have hnk : ¬ n = k := fun e => hkn e.symm
            by_cases hmn : m = n
            · subst hmn; simp [hProj, alt, hOpen, hc, hkn, hm.2, hnk]
            · have : ¬ n = m := fun e => hmn e.symm
              simp [hProj, alt, hOpen, hc, hkn, hmn, hnk, this]
    · have e : hlsStep s (.cdnS k) = ({ s with seen := k :: s.seen }, [.err k]) := by simp [hlsStep, hk, hu]
      rw [e]
      refine ⟨⟨h1, fun a ha => List.mem_cons_of_mem _ (h2 a ha), fun m hm => ⟨List.mem_cons_of_mem _ (h3 m hm).1, (h3 m hm).2⟩⟩, ?_⟩
      simp [hProj, alt, hOpen]
  | down =>
    refine ⟨⟨by simp [hlsStep], by simp [hlsStep], by simp [hlsStep]⟩, ?_⟩
    show alt (hOpen s n) (hProj n (stopAll s)) = _
    rw [hls_stopAll s hi n]
    cases ho : hOpen s n <;> simp [alt, hlsStep, hOpen]
  | up =>
    exact ⟨⟨h1, h2, h3⟩, by simp only [hlsStep, hProj, List.filterMap_nil, alt]; rfl⟩
  | kick k =>
    by_cases hc : s.cdn = some k
    · have e : hlsStep s (.kick k) = ({ s with cdn := none }, [.hook k false]) := by simp [hlsStep, hc]
      rw [e]
      refine ⟨⟨h1, h2, by simp⟩, ?_⟩
      have hk := h3 k hc
      by_cases hkn : k = n
      · subst hkn; simp [hProj, alt, hOpen, hc, hk.2]
      · have : ¬ n = k := fun e => hkn e.symm
        simp [hProj, alt, hOpen, hc, hkn, this]
    by_cases hp : k ∈ s.plain
    · have e : hlsStep s (.kick k) = ({ s with plain := s.plain.filter (· != k) }, [.hook k false]) := by
        simp [hlsStep, hc, hp]
      rw [e]
      refine ⟨⟨h1.filter _, fun a ha => h2 a (List.mem_filter.mp ha).1,
        fun m hm => ⟨(h3 m hm).1, fun h => (h3 m hm).2 (List.mem_filter.mp h).1⟩⟩, ?_⟩
      by_cases hkn : k = n
      · subst hkn
        have : s.cdn ≠ some k := hc
        simp [hProj, alt, hOpen, hp, this]
      · have hnk : ¬ n = k := fun e => hkn e.symm
        simp [hProj, alt, hOpen, hkn, List.mem_filter, hnk]
    · have e : hlsStep s (.kick k) = (s, []) := by simp [hlsStep, hc, hp]
      rw [e]; exact ⟨hi, by simp [hProj, alt]⟩
  | fin =>
    refine ⟨⟨by simp [hlsStep], by simp [hlsStep], by simp [hlsStep]⟩, ?_⟩
    show alt (hOpen s n) (hProj n (stopAll s)) = _
    rw [hls_stopAll s hi n]
    cases ho : hOpen s n <;> simp [alt, hlsStep, hOpen]

/-- HLS sessions: for every script and every session, runOnRead/runOnUnread alternate, the pair is open
exactly while the muxer references the session -/
theorem hls_pairs (es : List HEv) (n : Nat) : ∀ s, HInv s →
    alt (hOpen s n) (hProj n (hlsRun s es).2) = some (hOpen (hlsRun s es).1 n) := by
  induction es with
  | nil => intro s _; simp [hlsRun, hProj, alt]
  | cons e es ih =>
    intro s hi
    obtain ⟨hi', h1⟩ := hls_step s hi e n
    show alt (hOpen s n) (hProj n ((hlsStep s e).2 ++ (hlsRun (hlsStep s e).1 es).2)) = _
    rw [hProj_append, alt_append, h1]
    exact ih _ hi'

/-- ... and once the muxer is destroyed (`fin` last) every pair is closed -/
theorem hls_end_closed (es : List HEv) (n : Nat) :
    alt false (hProj n (hlsRun {} (es ++ [.fin])).2) = some false := by
  have h0 : HInv ({} : HState) := ⟨by simp, by simp, by simp⟩
  have := hls_pairs (es ++ [.fin]) n {} h0
  have hopen0 : hOpen ({} : HState) n = false := by simp [hOpen]
  rw [hopen0] at this
  rw [this]
  have hfin : ∀ (l : List HEv) (s : HState), hOpen (hlsRun s (l ++ [.fin])).1 n = false := by
    intro l; induction l with
    | nil => intro s; simp [hlsRun, hlsStep, hOpen]
    | cons x xs ih => intro s; exact ih _
  rw [hfin]

/-- **Tie for the per-object machines** (regenerated from the Go sources by tools/xlate/c20): these are
all call sites of hooks.OnRead / hooks.OnConnect in the protocol servers and the way each consumes
the returned closure — `defer` in the serving function (`objRun`), one assignment in the object's
initialisation with one call in its close function (`objRun`), or the RTSP session's
onPlay / onPause / onClose triple (`rtspStep`).  A new call site or a changed consumer breaks this. -/
theorem hook_sites_as_modelled : Gen.C20.hookSites = [
    ("internal/servers/hls/session.go", "initialize", "OnRead", "field onUnreadHook@close2"),
    ("internal/servers/rtmp/conn.go", "run", "OnConnect", "defer"),
    ("internal/servers/rtmp/conn.go", "runRead", "OnRead", "defer"),
    ("internal/servers/rtsp/conn.go", "initialize", "OnConnect", "field onDisconnectHook@onClose"),
    ("internal/servers/rtsp/session.go", "onPlay", "OnRead", "field onUnreadHook@onClose,onPause"),
    ("internal/servers/srt/conn.go", "run", "OnConnect", "defer"),
    ("internal/servers/srt/conn.go", "runRead", "OnRead", "defer"),
    ("internal/servers/webrtc/session.go", "runRead", "OnRead", "defer")] := rfl

def cHooks : Conf := { kind := .publisher, overridePublisher := true, runOnDemand := true }

example : cHooks.valid = true := by decide

example : hookEvents .avail (trace (init cHooks)
    [.describe 1, .addPublisher 1 true, .addPublisher 2 true, .addPublisher 3 false, .addPublisher 4 true, .close]) =
  [true, false, true, false, true, false, true, false] := by decide

example : (rtspRun .initial [.setup, .play, .play, .pause, .play, .close]).2 = [true, false, true, false] := by decide

example : (hlsRun {} [.openS 1, .cdnS 5, .cdnS 6, .down, .openS 2, .up, .openS 3, .kick 3, .openS 4, .fin]).2 =
  [.hook 1 true, .hook 5 true, .hook 5 false, .hook 6 true, .hook 1 false, .hook 6 false, .err 2,
   .hook 3 true, .hook 3 false, .hook 4 true, .hook 4 false] := by decide

end MtxVerif.C20
