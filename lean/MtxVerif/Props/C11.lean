/-
C11 — configuration copies are independent.  Property theorems.

Full statement (`clone_independent_full`): for every type tree, every value of that type and every
cell reachable from `Clone()`'s result, a write into that cell leaves the original unchanged.
It is FALSE for the current `deepClone` (no `reflect.Interface` case): `clone_independent_witness`.
`clone_independent_partial` proves it for every type tree satisfying the decidable side condition
`noUnhandled`; the driver evaluates that condition on the type trees of `conf.Conf` / `conf.Path`
obtained by reflection on every run.  With an Interface case (`ci = true`) the side condition only
excludes chan/func/unsafe.Pointer (`clone_independent_fixed`).
-/
import MtxVerif.Lemmas.C11Heap
import MtxVerif.Gen.C11

namespace MtxVerif.C11

/-- writes into any cell reachable from the copy (root cell included) do not change the original -/
def IndependentAt (ci : Bool) (v : V) (n : Nat) : Prop :=
  ∀ l ∈ locs (cloneRoot ci v n).1, ∀ (fp : V → V) (fs : Vs → Vs), mutate l fp fs v = v

def Independent (ci : Bool) (t : Ty) : Prop :=
  ∀ v n, hasTy v t = true → Below n v → IndependentAt ci v n

/-- **C11 at full strength**: copies of values of every type are independent. -/
def clone_independent_full (ci : Bool) : Prop := ∀ t, Independent ci t

mutual
theorem clone_fresh (ci : Bool) : ∀ (v : V) (n : Nat), clonable ci v = true →
    n ≤ (clone ci v n).2 ∧ ∀ l ∈ locs (clone ci v n).1, n ≤ l ∧ l < (clone ci v n).2
  | .atom _, n, _ => Fresh.nil n
  | .ptr _ p, n, h => Fresh.cons (clone_fresh ci p (n + 1) h)
  | .slice _ es, n, h => Fresh.cons (cloneS_fresh ci es (n + 1) h)
  | .map _ es, n, h => Fresh.cons (cloneS_fresh ci es (n + 1) h)
  | .struct fs, n, h => cloneF_fresh ci fs n h
  | .iface v, n, h => by
    cases ci with
    | true => exact clone_fresh true v n h
    | false =>
      show Fresh n (locs v) n
      rw [List.isEmpty_iff.mp h]
      exact Fresh.nil n
  | .other _, _, h => nomatch h
theorem cloneS_fresh (ci : Bool) : ∀ (vs : Vs) (n : Nat), clonableS ci vs = true →
    n ≤ (cloneS ci vs n).2 ∧ ∀ l ∈ locsS (cloneS ci vs n).1, n ≤ l ∧ l < (cloneS ci vs n).2
  | .nil, n, _ => Fresh.nil n
  | .cons _ _ hd tl, n, h =>
    have ⟨h1, h2⟩ := Bool.and_eq_true_iff.mp h
    Fresh.append (clone_fresh ci hd n h1) (cloneS_fresh ci tl _ h2)
theorem cloneF_fresh (ci : Bool) : ∀ (vs : Vs) (n : Nat), clonableF ci vs = true →
    n ≤ (cloneF ci vs n).2 ∧ ∀ l ∈ locsS (cloneF ci vs n).1, n ≤ l ∧ l < (cloneF ci vs n).2
  | .nil, n, _ => Fresh.nil n
  | .cons true _ hd tl, n, h =>
    have ⟨h1, h2⟩ := Bool.and_eq_true_iff.mp h
    Fresh.append (clone_fresh ci hd n h1) (cloneF_fresh ci tl _ h2)
  | .cons false _ _ tl, n, h => cloneF_fresh ci tl n h
end

/-- every cell of `Clone()`'s result (root included) is new -/
theorem cloneRoot_fresh (ci : Bool) (v : V) (n : Nat) (h : clonable ci v = true) :
    Fresh n (locs (cloneRoot ci v n).1) (cloneRoot ci v n).2 :=
  Fresh.cons (clone_fresh ci v (n + 1) h)

/-- value-level independence -/
theorem clone_independent_val (ci : Bool) (v : V) (n : Nat) (hc : clonable ci v = true) (hb : Below n v) :
    IndependentAt ci v n :=
  fun l hl fp fs => mutate_above hb ((cloneRoot_fresh ci v n hc).2 l hl).1 fp fs

section
variable {l k : Nat} {p v hd : V} {es kvs fs tl : Vs} {t : Ty} {f : Bool} {ts : Tys}

theorem hasTy_ptr (h : hasTy (.ptr l p) t = true) : ∃ t', t = .ptr t' ∧ hasTy p t' = true := by
  cases t with
  | ptr t' => exact ⟨t', rfl, h⟩
  | _ => cases h

theorem hasTy_slice (h : hasTy (.slice l es) t = true) : ∃ t', t = .slice t' ∧ allTy es t' = true := by
  cases t with
  | slice t' => exact ⟨t', rfl, h⟩
  | _ => cases h

theorem hasTy_map (h : hasTy (.map l kvs) t = true) : ∃ t', t = .map t' ∧ allTy kvs t' = true := by
  cases t with
  | map t' => exact ⟨t', rfl, h⟩
  | _ => cases h

theorem hasTy_struct (h : hasTy (.struct fs) t = true) : ∃ ts, t = .struct ts ∧ fieldsTy fs ts = true := by
  cases t with
  | struct ts => exact ⟨ts, rfl, h⟩
  | _ => cases h

theorem hasTy_iface (h : hasTy (.iface v) t = true) : ∃ d, t = .iface d ∧ hasTy v d = true := by
  cases t with
  | iface d => exact ⟨d, rfl, h⟩
  | _ => cases h

theorem hasTy_other (h : hasTy (.other l) t = true) : t = .other := by
  cases t with
  | other => rfl
  | _ => cases h

theorem fieldsTy_cons (h : fieldsTy (.cons f k hd tl) ts = true) :
    ∃ t ts', ts = .cons f t ts' ∧ (f = true → hasTy hd t = true) ∧ fieldsTy tl ts' = true := by
  cases ts with
  | nil => cases h
  | cons s t ts' =>
    obtain ⟨h12, h3⟩ := Bool.and_eq_true_iff.mp h
    obtain ⟨h1, h2⟩ := Bool.and_eq_true_iff.mp h12
    cases beq_iff_eq.mp h1
    exact ⟨t, ts', rfl, fun hf => by rwa [hf, if_pos rfl] at h2, h3⟩

end

mutual
theorem refFree_locs : ∀ (v : V) (t : Ty), refFree t = true → hasTy v t = true → locs v = []
  | .atom _, _, _, _ => rfl
  | .ptr .., _, hr, ht => by obtain ⟨_, rfl, _⟩ := hasTy_ptr ht; cases hr
  | .slice .., _, hr, ht => by obtain ⟨_, rfl, _⟩ := hasTy_slice ht; cases hr
  | .map .., _, hr, ht => by obtain ⟨_, rfl, _⟩ := hasTy_map ht; cases hr
  | .struct fs, _, hr, ht => by
    obtain ⟨ts, rfl, ht⟩ := hasTy_struct ht
    exact refFreeS_locs fs ts hr ht
  | .iface v, _, hr, ht => by
    obtain ⟨d, rfl, ht⟩ := hasTy_iface ht
    exact refFree_locs v d hr ht
  | .other _, _, hr, ht => by cases hasTy_other ht; cases hr
theorem refFreeS_locs : ∀ (vs : Vs) (ts : Tys), refFreeS ts = true → fieldsTy vs ts = true → locsS vs = []
  | .nil, _, _, _ => rfl
  | .cons _ _ hd tl, _, hr, ht => by
    obtain ⟨t, ts', rfl, hty, hrest⟩ := fieldsTy_cons ht
    obtain ⟨hr, hrs⟩ := Bool.and_eq_true_iff.mp hr
    obtain ⟨rfl, hrt⟩ := Bool.and_eq_true_iff.mp hr
    exact List.append_eq_nil_iff.mpr ⟨refFree_locs hd t hrt (hty rfl), refFreeS_locs tl ts' hrs hrest⟩
end

mutual
theorem hasTy_clonable (ci : Bool) : ∀ (v : V) (t : Ty), noUnhandled ci t = true → hasTy v t = true →
    clonable ci v = true
  | .atom _, _, _, _ => rfl
  | .ptr _ p, _, hn, ht => by
    obtain ⟨t', rfl, ht⟩ := hasTy_ptr ht
    exact hasTy_clonable ci p t' hn ht
  | .slice _ es, _, hn, ht => by
    obtain ⟨t', rfl, ht⟩ := hasTy_slice ht
    exact allTy_clonable ci es t' hn ht
  | .map _ es, _, hn, ht => by
    obtain ⟨t', rfl, ht⟩ := hasTy_map ht
    exact allTy_clonable ci es t' hn ht
  | .struct fs, _, hn, ht => by
    obtain ⟨ts, rfl, ht⟩ := hasTy_struct ht
    exact fieldsTy_clonable ci fs ts hn ht
  | .iface v, _, hn, ht => by
    obtain ⟨d, rfl, ht⟩ := hasTy_iface ht
    cases ci with
    | true => exact hasTy_clonable true v d hn ht
    | false => exact List.isEmpty_iff.mpr (refFree_locs v d hn ht)
  | .other _, _, hn, ht => by cases hasTy_other ht; cases hn
theorem allTy_clonable (ci : Bool) : ∀ (vs : Vs) (t : Ty), noUnhandled ci t = true → allTy vs t = true →
    clonableS ci vs = true
  | .nil, _, _, _ => rfl
  | .cons _ _ hd tl, t, hn, ht =>
    have ⟨h1, h2⟩ := Bool.and_eq_true_iff.mp ht
    Bool.and_eq_true_iff.mpr ⟨hasTy_clonable ci hd t hn h1, allTy_clonable ci tl t hn h2⟩
theorem fieldsTy_clonable (ci : Bool) : ∀ (vs : Vs) (ts : Tys), noUnhandledS ci ts = true → fieldsTy vs ts = true →
    clonableF ci vs = true
  | .nil, _, _, _ => rfl
  | .cons f _ hd tl, _, hn, ht => by
    obtain ⟨t, ts', rfl, hty, hrest⟩ := fieldsTy_cons ht
    obtain ⟨hn1, hn2⟩ := Bool.and_eq_true_iff.mp hn
    refine Bool.and_eq_true_iff.mpr ⟨?_, fieldsTy_clonable ci tl ts' hn2 hrest⟩
    cases f with
    | true => exact hasTy_clonable ci hd t hn1 (hty rfl)
    | false => rfl
end

/-- **C11 under the decidable side condition**: for every type tree on which every reference reachable
through settable fields has a kind handled by `deepClone`, all values, all allocator states, all cells of
the copy, all writes: the original is unchanged. -/
theorem clone_independent_partial (ci : Bool) (t : Ty) (h : noUnhandled ci t = true) : Independent ci t :=
  fun v n hty hb => clone_independent_val ci v n (hasTy_clonable ci v t h hty) hb

/-- shape of `OptionalPath{Values any}` holding `*struct{Source *string}` -/
def witnessTy : Ty := .struct (.cons true (.iface (.ptr (.struct (.cons true (.ptr .scalar) .nil)))) .nil)
def witnessV : V :=
  .struct (.cons true 0 (.iface (.ptr 0 (.struct (.cons true 0 (.ptr 1 (.atom (.scalar 7))) .nil)))) .nil)

theorem clone_independent_witness : ¬ clone_independent_full false := by
  intro h
  have hb : Below 2 witnessV := by unfold Below; decide
  have hw := h witnessTy witnessV 2 (by decide) hb 1 (by decide) (fun _ => .atom (.scalar 8)) id
  cases hw

/-- the same witness is not in the class covered by the partial theorem -/
example : noUnhandled false witnessTy = false := by decide
/-- and it is covered once interfaces are cloned through -/
example : noUnhandled true witnessTy = true := by decide

mutual
/-- no chan / func / unsafe.Pointer reachable through settable fields -/
def noOther : Ty → Bool
  | .scalar => true
  | .ptr t => noOther t
  | .slice t => noOther t
  | .map t => noOther t
  | .struct fs => noOtherS fs
  | .iface d => noOther d
  | .other => false
def noOtherS : Tys → Bool
  | .nil => true
  | .cons s t tl => (if s then noOther t else true) && noOtherS tl
end

mutual
theorem noOther_noUnhandled : ∀ t : Ty, noOther t = true → noUnhandled true t = true
  | .scalar, _ => rfl
  | .ptr t, h => noOther_noUnhandled t h
  | .slice t, h => noOther_noUnhandled t h
  | .map t, h => noOther_noUnhandled t h
  | .struct fs, h => noOtherS_noUnhandledS fs h
  | .iface d, h => noOther_noUnhandled d h
  | .other, h => nomatch h
theorem noOtherS_noUnhandledS : ∀ ts : Tys, noOtherS ts = true → noUnhandledS true ts = true
  | .nil, _ => rfl
  | .cons true t tl, h =>
    have ⟨h1, h2⟩ := Bool.and_eq_true_iff.mp h
    Bool.and_eq_true_iff.mpr ⟨noOther_noUnhandled t h1, noOtherS_noUnhandledS tl h2⟩
  | .cons false _ tl, h => noOtherS_noUnhandledS tl h
end

/-- **C11 for a `deepClone` with an Interface case**: holds for every type tree without
chan/func/unsafe.Pointer — pointers, slices, maps, structs, interfaces nested in any way. -/
theorem clone_independent_fixed (t : Ty) (h : noOther t = true) : Independent true t :=
  clone_independent_partial true t (noOther_noUnhandled t h)

/-! #### "therefore a rejected API edit leaves the running configuration untouched" -/

/-- An edit works on the copy: every write goes to a cell of the copy or to a cell allocated after the
copy was made.  Whatever it writes, and whether or not it is then rejected, the original is unchanged. -/
theorem rejected_edit_noop (ci : Bool) (t : Ty) (h : noUnhandled ci t = true) (v : V) (n : Nat)
    (hty : hasTy v t = true) (hb : Below n v) (ws : List (Nat × (V → V) × (Vs → Vs)))
    (hws : ∀ w ∈ ws, w.1 ∈ locs (cloneRoot ci v n).1 ∨ (cloneRoot ci v n).2 ≤ w.1) :
    applyWrites ws v = v := by
  have hf := cloneRoot_fresh ci v n (hasTy_clonable ci v t h hty)
  refine applyWrites_above hb ws fun w hw => ?_
  rcases hws w hw with hl | hl
  · exact (hf.2 _ hl).1
  · exact Nat.le_trans hf.1 hl

/-! #### the copy is equal to the original up to locations (non-settable fields zeroed) -/

mutual
theorem clone_equal (ci : Bool) : ∀ (v : V) (n : Nat), erase (clone ci v n).1 = erase (zeroU ci v)
  | .atom _, _ => rfl
  | .ptr _ p, n => congrArg (V.ptr 0) (clone_equal ci p (n + 1))
  | .slice _ es, n => congrArg (V.slice 0) (cloneS_equal ci es (n + 1))
  | .map _ es, n => congrArg (V.map 0) (cloneS_equal ci es (n + 1))
  | .struct fs, n => congrArg V.struct (cloneF_equal ci fs n)
  | .iface v, n => by
    cases ci with
    | true => exact congrArg V.iface (clone_equal true v n)
    | false => rfl
  | .other _, _ => rfl
theorem cloneS_equal (ci : Bool) : ∀ (vs : Vs) (n : Nat), eraseS (cloneS ci vs n).1 = eraseS (zeroUS ci vs)
  | .nil, _ => rfl
  | .cons f k hd tl, n => by
    show Vs.cons f k (erase (clone ci hd n).1) (eraseS (cloneS ci tl _).1) = Vs.cons f k _ _
    rw [clone_equal ci hd n, cloneS_equal ci tl]
theorem cloneF_equal (ci : Bool) : ∀ (vs : Vs) (n : Nat), eraseS (cloneF ci vs n).1 = eraseS (zeroUF ci vs)
  | .nil, _ => rfl
  | .cons true k hd tl, n => by
    show Vs.cons true k (erase (clone ci hd n).1) (eraseS (cloneF ci tl _).1) =
      Vs.cons true k (erase (zeroU ci hd)) (eraseS (zeroUF ci tl))
    rw [clone_equal ci hd n, cloneF_equal ci tl]
  | .cons false k _ tl, n => congrArg (Vs.cons false k (.atom .zero)) (cloneF_equal ci tl n)
end

def OwnedBy (own : Nat) (ls : List Nat) (sl : List (String × Nat)) : Prop := ∀ s ∈ sl, s.2 = own ∨ s.2 ∈ ls

section
variable {own l : Nat} {ls xs ys : List Nat} {s : String × Nat} {sl a b : List (String × Nat)}

theorem OwnedBy.nil : OwnedBy own ls [] := fun _ h => nomatch h

theorem OwnedBy.cons (h : s.2 = own ∨ s.2 ∈ ls) (ht : OwnedBy own ls sl) : OwnedBy own ls (s :: sl) :=
  List.forall_mem_cons.mpr ⟨h, ht⟩

theorem OwnedBy.append (ha : OwnedBy own xs a) (hb : OwnedBy own ys b) : OwnedBy own (xs ++ ys) (a ++ b) :=
  List.forall_mem_append.mpr
    ⟨fun s hs => (ha s hs).imp_right (List.mem_append_left ys), fun s hs => (hb s hs).imp_right (List.mem_append_right xs)⟩

theorem OwnedBy.self (ro : Bool) (path : String) : OwnedBy own ls (if ro then [] else [(path, own)]) := by
  cases ro
  · exact .cons (.inl rfl) .nil
  · exact .nil

theorem OwnedBy.inner (h : OwnedBy l ls sl) : OwnedBy own (l :: ls) sl :=
  fun s hs => .inr (List.mem_cons.mpr (h s hs))

end

mutual
theorem slots_owner (ro : Bool) (own : Nat) (path : String) : ∀ v : V,
    ∀ s ∈ slots ro own path v, s.2 = own ∨ s.2 ∈ locs v
  | .atom _ => OwnedBy.self ro path
  | .ptr l p => OwnedBy.append (xs := []) (.self ro path) (.inner (slots_owner false l _ p))
  | .slice l es => OwnedBy.append (xs := []) (.self ro path) (.inner (slotsE_owner l path 0 es))
  | .map l kvs =>
    OwnedBy.append (xs := []) (.self ro path) (.inner (.cons (own := l) (.inl rfl) (slotsK_owner l path 0 kvs)))
  | .struct fs => slotsF_owner ro own path fs
  | .iface v => OwnedBy.append (xs := []) (.self ro path) (slots_owner true own _ v)
  | .other _ => OwnedBy.self ro path
theorem slotsE_owner (own : Nat) (path : String) (i : Nat) : ∀ vs : Vs,
    ∀ s ∈ slotsE own path i vs, s.2 = own ∨ s.2 ∈ locsS vs
  | .nil => OwnedBy.nil
  | .cons _ _ hd tl => OwnedBy.append (slots_owner false own _ hd) (slotsE_owner own path (i + 1) tl)
theorem slotsK_owner (own : Nat) (path : String) (i : Nat) : ∀ vs : Vs,
    ∀ s ∈ slotsK own path i vs, s.2 = own ∨ s.2 ∈ locsS vs
  | .nil => OwnedBy.nil
  | .cons _ _ hd tl => OwnedBy.append (slots_owner false own _ hd) (slotsK_owner own path (i + 1) tl)
theorem slotsF_owner (ro : Bool) (own : Nat) (path : String) : ∀ vs : Vs,
    ∀ s ∈ slotsF ro own path vs, s.2 = own ∨ s.2 ∈ locsS vs
  | .nil => OwnedBy.nil
  | .cons true _ hd tl => OwnedBy.append (slots_owner ro own _ hd) (slotsF_owner ro own path tl)
  | .cons false _ hd tl => OwnedBy.append (xs := locs hd) .nil (slotsF_owner ro own path tl)
end

/-- Under the side condition the model predicts that no mutation slot of the copy is owned by an old cell —
the answer the driver compares the harness' mutate-and-compare run against. -/
theorem aliased_nil (ci : Bool) (v : V) (n : Nat) (hc : clonable ci v = true) :
    aliased n (slots false n "" (clone ci v (n + 1)).1) = [] := by
  unfold aliased
  rw [List.map_eq_nil_iff, List.filter_eq_nil_iff]
  intro s hs
  have : n ≤ s.2 := by
    rcases slots_owner false n "" _ s hs with h | h
    · omega
    · have := (clone_fresh ci v (n + 1) hc).2 _ h; omega
  simpa using this

/-! #### tie to the source: the `case` labels of `deepClone` (regenerated on every check) -/

/-- whether the model clones through interfaces — read off the regenerated facts -/
def genCloneIface : Bool := Gen.C11.caseInterface

/-- the four kinds the model clones unconditionally are cases of the real switch, there are no cases the
model does not know, and the switch ends in `default: return rv` -/
theorem gen_switch_shape :
    Gen.C11.casePointer = true ∧ Gen.C11.caseStruct = true ∧ Gen.C11.caseSlice = true ∧
    Gen.C11.caseMap = true ∧ Gen.C11.otherCases = 0 ∧ Gen.C11.defaultReturnsArg = true := by decide

/-- the copy constructors of package conf are exactly the ones modelled (`deepClone`, `Conf.Clone`,
`Path.Clone` = `cloneRoot`); a new `CloneXxx` / copy method breaks this obligation until it is modelled (the
harness additionally runs the independence test on every parameterless method returning `*Conf`/`*Path`) -/
theorem gen_clone_constructors : Gen.C11.unknownCloneConstructors = 0 ∧ Gen.C11.cloneConstructors = 3 := by decide

/-- the switch has its Interface case: the driver runs the model for which `clone_independent_fixed` holds -/
theorem gen_case_interface : Gen.C11.caseInterface = true := by decide

/-! #### non-vacuity -/

/-- a small config-like value: struct{ *scalar; []struct{scalar}; map→*scalar; unexported } -/
def sampleTy : Ty :=
  .struct (.cons true (.ptr .scalar) (.cons true (.slice (.struct (.cons true .scalar .nil)))
    (.cons true (.map (.ptr .scalar)) (.cons false .scalar .nil))))
def sampleV : V :=
  .struct (.cons true 0 (.ptr 0 (.atom (.scalar 5))) (.cons true 1
    (.slice 1 (.cons true 0 (.struct (.cons true 0 (.atom (.scalar 6)) .nil)) .nil))
    (.cons true 2 (.map 2 (.cons true 9 (.ptr 3 (.atom (.scalar 7))) .nil)) (.cons false 3 (.atom .opaque) .nil))))

example : hasTy sampleV sampleTy = true ∧ noUnhandled false sampleTy = true := by decide
example : hasTy witnessV witnessTy = true := by decide
example : locs (cloneRoot false sampleV 4).1 = [4, 5, 6, 7, 8] := by decide
example : locs (cloneRoot false witnessV 2).1 = [2, 0, 1] ∧ locs (cloneRoot true witnessV 2).1 = [2, 3, 4] := by decide

end MtxVerif.C11
