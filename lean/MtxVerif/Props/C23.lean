/-
C23 — RTP re-packetization is size-bounded and lossless.  Property theorems.

(a) `writeUnit_*`: MediaMTX's own logic, for ANY packetiser satisfying the contract `PackOK`;
(b1) `frag_*`: the generic fragmenter satisfies it for every non-empty frame and every `max ≥ 1`;
(b2) `h264_*`: the H264 packetiser satisfies it for every non-empty access unit of clean NAL units and
     every `max ≥ 3`.
-/
import MtxVerif.Model.C23

namespace MtxVerif.C23

theorem number_payloads (ssrc seq : Nat) (raws : List Raw) :
    (number ssrc seq raws).map (·.payload) = raws.map (·.payload) := by
  fun_induction number ssrc seq raws <;> simp_all

/-- the i-th generated packet: sequence number `seq + i` (uint16), the packetiser's payload / marker -/
theorem number_get (ssrc seq : Nat) (raws : List Raw) (i : Nat) (r : Raw) (h : raws[i]? = some r) :
    (number ssrc seq raws)[i]? = some ⟨ssrc, (seq + i) % two16, r.dts % two32, r.marker, r.payload⟩ := by
  induction raws generalizing seq i with
  | nil => simp at h
  | cons x rest ih =>
    cases i with
    | zero => simp at h; subst h; simp [number]
    | succ j =>
      simp only [List.getElem?_cons_succ] at h
      simp only [number, List.getElem?_cons_succ]
      rw [ih (seq + 1) j h, show seq + 1 + j = seq + (j + 1) by omega]

theorem u32_lt (pts : Int) : u32 pts < two32 := by
  unfold u32 two32
  have h1 : (0 : Int) ≤ pts % 4294967296 := Int.emod_nonneg _ (by decide)
  have h2 : pts % 4294967296 < 4294967296 := Int.emod_lt_of_pos _ (by decide)
  omega

/-- `stamp`: timestamp = packetiser timestamp + offset + uint32(PTS)  (mod 2^32); nothing else changes -/
theorem stamp_eq (off : Nat) (pts : Int) (p : Pkt) :
    stamp off pts p = { p with ts := (p.ts + off + u32 pts) % two32 } := by
  simp [stamp, Nat.add_assoc]

theorem trigger_of_enc (cfg : Cfg) (s : SF) (pts : Int) (inRtp : List Pkt) (h : s.enc.isSome = true) :
    trigger cfg s pts inRtp = .ok s := by
  simp [trigger, h]

theorem trigger_of_none (cfg : Cfg) (s : SF) (pts : Int) (inRtp : List Pkt) (h : s.enc = none) :
    trigger cfg s pts inRtp =
      match inRtp.find? (fun p => p.payload.length > cfg.max) with
      | none => .ok s
      | some p =>
        if cfg.encAvailable then
          .ok { enc := some ⟨p.ssrc, p.seq⟩, timeOffset := (p.ts + two32 - u32 pts) % two32 }
        else .error .tooBig := by
  cases inRtp with
  | nil => simp [trigger]
  | cons q r => simp [trigger, h]; rfl

theorem trigger_no_enc (cfg : Cfg) (s s1 : SF) (pts : Int) (inRtp : List Pkt)
    (h : trigger cfg s pts inRtp = .ok s1) (hn : s1.enc = none) : ∀ p ∈ inRtp, p.payload.length ≤ cfg.max := by
  revert h
  -- no packets; an encoder existed and is kept; nothing oversized; an encoder is created; error
  fun_cases trigger cfg s pts inRtp with
  | case1 he => simp_all
  | case2 _ hs => intro h; cases h; simp_all
  | case3 _ _ hf => intro _; simpa using List.find?_eq_none.mp hf
  | case4 => intro h; cases h; cases hn
  | case5 => intro h; cases h

/-- **size bound (a)**: whatever `writeUnitInner` hands on for a unit — the publisher's packets or
generated ones — fits the configured maximum, provided the packetiser keeps its contract on the remuxed
payload. -/
theorem writeUnit_sizes {P : Type} (cfg : Cfg) (remux : P → Option P) (pack : P → List Raw)
    (unpack : List Raw → Option P) (Valid : P → Prop) (hok : PackOK cfg.max pack unpack Valid)
    (s s' : SF) (pts : Int) (inRtp : List Pkt) (payload : Option P) (out : Out P)
    (hv : ∀ pl pl', payload = some pl → remux pl = some pl' → Valid pl')
    (h : writeUnit cfg remux pack s pts inRtp payload = .ok (s', out)) :
    ∀ p ∈ out.rtp, p.payload.length ≤ cfg.max := by
  -- packets passed on: no encoder after the trigger, so no payload was oversized
  have pass : ∀ s1, trigger cfg s pts inRtp = .ok s1 →
      ∀ p ∈ (if s1.enc.isSome then [] else inRtp), p.payload.length ≤ cfg.max := by
    intro s1 ht p hp
    split at hp
    · cases hp
    · next hn => exact trigger_no_enc cfg s s1 pts inRtp ht (by simpa using hn) p hp
  revert h
  -- trigger error; nil payload; generated; remux yields nil or there is no encoder
  fun_cases writeUnit cfg remux pack s pts inRtp payload with
  | case1 => intro h; cases h
  | case2 s1 ht => intro h; cases h; exact pass _ ht
  | case3 s1 ht pl pl' e he hr =>
    -- generated: numbering and stamping leave the packetiser's payloads alone
    intro h p hp
    cases h
    obtain ⟨q, hq, rfl⟩ := List.mem_map.mp hp
    have : q.payload ∈ (pack pl').map (·.payload) :=
      number_payloads e.ssrc e.seq _ ▸ List.mem_map_of_mem hq
    obtain ⟨r, hr', hrp⟩ := List.mem_map.mp this
    show q.payload.length ≤ cfg.max
    rw [← hrp]
    exact hok.size pl' (hv pl pl' rfl hr) r hr'
  | case4 s1 ht => intro h; cases h; exact pass _ ht

/-- **generated packets (a)**: when an encoder exists (or is created by the oversize trigger) and the remuxed
payload is not nil, the delivered packets are exactly the packetiser's output, numbered consecutively from
the encoder's sequence number and stamped `packetiser timestamp + rtpTimeOffset + uint32(PTS)`; the
encoder's sequence number advances by the number of packets; the publisher's packets are dropped. -/
theorem writeUnit_generated {P : Type} (cfg : Cfg) (remux : P → Option P) (pack : P → List Raw)
    (s s1 : SF) (e : EncSt) (pts : Int) (inRtp : List Pkt) (pl pl' : P)
    (ht : trigger cfg s pts inRtp = .ok s1) (he : s1.enc = some e) (hr : remux pl = some pl') :
    writeUnit cfg remux pack s pts inRtp (some pl) =
      .ok ({ s1 with enc := some ⟨e.ssrc, (e.seq + (pack pl').length) % two16⟩ },
           ⟨(number e.ssrc e.seq (pack pl')).map (stamp s1.timeOffset pts), some pl'⟩) := by
  simp only [writeUnit, ht, hr, he]

/-- i-th generated packet, spelled out -/
theorem generated_get (ssrc seq off : Nat) (pts : Int) (raws : List Raw) (i : Nat) (r : Raw)
    (h : raws[i]? = some r) :
    ((number ssrc seq raws).map (stamp off pts))[i]? =
      some ⟨ssrc, (seq + i) % two16, (r.dts % two32 + off + u32 pts) % two32, r.marker, r.payload⟩ := by
  rw [List.getElem?_map, number_get ssrc seq raws i r h, Option.map_some, stamp_eq]

/-- **continuity at the oversize trigger**: the first generated packet of the triggering unit carries the
oversized packet's own sequence number and (for a packetiser timestamp of 0) its own RTP timestamp. -/
theorem trigger_continuity (p : Pkt) (pts : Int) (hp : p.ts < two32) :
    (0 % two32 + (p.ts + two32 - u32 pts) % two32 + u32 pts) % two32 = p.ts := by
  have := u32_lt pts
  simp only [two32] at *
  omega

/-- a later sub stream finds the encoder of the stream and leaves SSRC, sequence and offset alone -/
theorem initSF_keeps (cfg : Cfg) (s : SF) (a b c : Bool) (ssrc seq off : Nat) (h : s.enc.isSome = true) :
    initSF cfg s a b c ssrc seq off = some s := by
  have : s.enc.isNone = false := by simpa using h
  simp [initSF, this]

theorem lifeStep_keeps {P : Type} (cfg : Cfg) (remux : P → Option P) (pack : P → List Raw) (s s' : SF)
    (e : EncSt) (ev : LifeEv P) (he : s.enc = some e) (h : lifeStep cfg remux pack s ev = some s') :
    s'.timeOffset = s.timeOffset ∧ ∃ e', s'.enc = some e' ∧ e'.ssrc = e.ssrc := by
  have hs : s.enc.isSome = true := by simp [he]
  cases ev with
  | sub a b c ssrc seq off =>
    rw [lifeStep, initSF_keeps cfg s a b c ssrc seq off hs] at h
    cases h
    exact ⟨rfl, e, he, rfl⟩
  | unit pts inRtp payload =>
    simp only [lifeStep] at h
    revert h
    -- the trigger leaves `s` alone; only a generated unit changes it, and only the sequence number
    fun_cases writeUnit cfg remux pack s pts inRtp payload with
    | case1 => intro h; cases h; exact ⟨rfl, e, he, rfl⟩
    | case3 s1 ht pl pl' e1 he1 =>
      intro h
      cases h
      cases (trigger_of_enc cfg s pts inRtp hs).symm.trans ht
      cases he.symm.trans he1
      exact ⟨rfl, _, rfl, rfl⟩
    | case2 s1 ht | case4 s1 ht =>
      intro h
      cases h
      cases (trigger_of_enc cfg s pts inRtp hs).symm.trans ht
      exact ⟨rfl, e, he, rfl⟩
/-- **fixed per-format offset over the whole life of a stream**: once the encoder of a stream format exists,
no sequence of sub-stream initialisations and units — offline filler, publisher, filler again, another
publisher … — changes `rtpTimeOffset` or the SSRC (the sequence number only advances by the packets generated,
`writeUnit_generated`). -/
theorem offset_fixed_for_life {P : Type} (cfg : Cfg) (remux : P → Option P) (pack : P → List Raw)
    (evs : List (LifeEv P)) (s s' : SF) (e : EncSt) (he : s.enc = some e)
    (h : lifeRun cfg remux pack s evs = some s') :
    s'.timeOffset = s.timeOffset ∧ ∃ e', s'.enc = some e' ∧ e'.ssrc = e.ssrc := by
  induction evs generalizing s e with
  | nil => cases h; exact ⟨rfl, e, he, rfl⟩
  | cons ev rest ih =>
    obtain ⟨s1, hs, h⟩ := Option.bind_eq_some_iff.mp h
    obtain ⟨h1, e1, he1, hss⟩ := lifeStep_keeps cfg remux pack s s1 e ev he hs
    obtain ⟨h2, e2, he2, hss2⟩ := ih s1 e1 he1 h
    exact ⟨h2.trans h1, e2, he2, hss2.trans hss⟩

theorem chunksAux_spec (k : Nat) (hk : 0 < k) (fuel : Nat) (b : Bytes) (hf : b.length ≤ fuel) :
    (chunksAux k fuel b).flatten = b ∧ ∀ c ∈ chunksAux k fuel b, 0 < c.length ∧ c.length ≤ k := by
  fun_induction chunksAux k fuel b with
  | case1 b => simp_all
  | case2 fuel b hle he => simp_all
  | case3 fuel b hle hne => simp_all [List.length_pos_iff]
  | case4 fuel b hgt ih =>
    obtain ⟨h1, h2⟩ := ih (by simp only [List.length_drop]; omega)
    simp only [List.flatten_cons, h1, List.take_append_drop, List.mem_cons, forall_eq_or_imp, List.length_take]
    exact ⟨trivial, by omega, h2⟩

theorem chunks_flatten (k : Nat) (hk : 0 < k) (b : Bytes) : (chunks k b).flatten = b := by
  rw [chunks, if_neg (by omega)]
  exact (chunksAux_spec k hk _ b (Nat.le_refl _)).1

theorem chunks_size (k : Nat) (b : Bytes) : ∀ c ∈ chunks k b, 0 < c.length ∧ c.length ≤ k := by
  unfold chunks
  split
  · simp
  · exact (chunksAux_spec k (by omega) _ b (Nat.le_refl _)).2

theorem chunks_ne_nil (k : Nat) (hk : 0 < k) (b : Bytes) (hb : b ≠ []) : chunks k b ≠ [] := by
  intro h
  have := chunks_flatten k hk b
  rw [h] at this
  exact hb this.symm

theorem markLast_cons (c : Bytes) (rest : List Bytes) :
    markLast (c :: rest) = { marker := rest.isEmpty, payload := c } :: markLast rest := by
  cases rest <;> rfl

theorem markLast_payloads (l : List Bytes) : (markLast l).map (·.payload) = l := by
  fun_induction markLast l <;> simp_all

theorem markLast_dts (l : List Bytes) : ∀ r ∈ markLast l, r.dts = 0 := by
  fun_induction markLast l <;> simp_all

/-- **size bound (b1)** -/
theorem frag_size (max : Nat) (frame : Bytes) : ∀ r ∈ fragPack max frame, r.payload.length ≤ max := by
  intro r hr
  have : r.payload ∈ (fragPack max frame).map (·.payload) := List.mem_map_of_mem hr
  rw [fragPack, markLast_payloads] at this
  exact (chunks_size max frame r.payload this).2

/-- decoding is blind to the timestamp -/
theorem fragDecode_stamp (d : FragDec) (off : Nat) (pts : Int) (p : Pkt) :
    fragDecode d (stamp off pts p) = fragDecode d p := rfl

/-- the one-packet clause of `fragDecodeAll` is an instance of the general one -/
theorem fragDecodeAll_cons (d : FragDec) (p : Pkt) (l : List Pkt) :
    fragDecodeAll d (p :: l) =
      match fragDecode d p with
      | (d', .more) => fragDecodeAll d' l
      | (d', r) => (d', r) := by
  cases l with
  | nil => rcases h : fragDecode d p with ⟨d', _ | _ | _⟩ <;> simp [fragDecodeAll, h]
  | cons q r => rfl

theorem fragDecodeAll_stamp (d : FragDec) (off : Nat) (pts : Int) (l : List Pkt) :
    fragDecodeAll d (l.map (stamp off pts)) = fragDecodeAll d l := by
  induction l generalizing d with
  | nil => rfl
  | cons p rest ih => simp only [List.map_cons, fragDecodeAll_cons, fragDecode_stamp, ih]

/-- packets of a batch: consecutive sequence numbers, marker only on the last one and only if `last` -/
def numberM (ssrc seq : Nat) (last : Bool) : List Bytes → List Pkt
  | [] => []
  | c :: rest => ⟨ssrc, seq % two16, 0, last && rest.isEmpty, c⟩ :: numberM ssrc (seq + 1) last rest

theorem number_markLast (ssrc seq : Nat) (l : List Bytes) :
    number ssrc seq (markLast l) = numberM ssrc seq true l := by
  induction l generalizing seq with
  | nil => rfl
  | cons c rest ih => simp [markLast_cons, number, numberM, ih, two32]

theorem fragDecode_next (d : FragDec) (p : Pkt) (hp : p.payload ≠ []) (hn : d.frags ≠ [] → p.seq = d.next) :
    fragDecode d p =
      if p.marker then ((fragDecode d p).1, .out (d.frags ++ p.payload))
      else ({ frags := d.frags ++ p.payload, next := (p.seq + 1) % two16 }, .more) := by
  fun_cases fragDecode d p <;> simp_all

/-- feeding the numbered pieces: from a decoder that has collected `d.frags` (expecting `seq`), the last
piece completes `d.frags ++ pieces.flatten` -/
theorem frag_decode_aux (ssrc : Nat) (cs : List Bytes) (hne : cs ≠ []) (hpos : ∀ c ∈ cs, c ≠ [])
    (seq : Nat) (d : FragDec) (hn : d.frags ≠ [] → d.next = seq % two16) :
    (fragDecodeAll d (numberM ssrc seq true cs)).2 = .out (d.frags ++ cs.flatten) := by
  induction cs generalizing seq d with
  | nil => exact absurd rfl hne
  | cons c rest ih =>
    rw [numberM, fragDecodeAll_cons,
      fragDecode_next d _ (hpos c List.mem_cons_self) (fun h => (hn h).symm)]
    cases rest with
    | nil => simp
    | cons c2 rest' =>
      simp only [List.isEmpty_cons, Bool.and_false, Bool.false_eq_true, if_false]
      rw [ih (by simp) (fun x hx => hpos x (List.mem_cons_of_mem _ hx)) (seq + 1) _
        (fun _ => by simp only [two16]; omega)]
      simp

/-- **lossless (b1)**: for every non-empty frame and every `max ≥ 1`, feeding the delivered packets of the unit
(numbered from any sequence number, stamped with any offset) to a fresh `rtpfragmented.Decoder` yields the
frame. -/
theorem frag_roundtrip (max : Nat) (hmax : 0 < max) (frame : Bytes) (hf : frame ≠ []) (ssrc seq off : Nat)
    (pts : Int) :
    (fragDecodeAll {} ((number ssrc seq (fragPack max frame)).map (stamp off pts))).2 = .out frame := by
  rw [fragDecodeAll_stamp, fragPack, number_markLast,
    frag_decode_aux ssrc _ (chunks_ne_nil max hmax frame hf)
      (fun c hc => List.length_pos_iff.mp (chunks_size max frame c hc).1) seq {} (fun h => absurd rfl h),
    chunks_flatten max hmax]
  rfl

/-- the generic fragmenter satisfies the contract used in (a) -/
theorem frag_packOK (max : Nat) (hmax : 0 < max) :
    PackOK max (fragPack max)
      (fun raws => match (fragDecodeAll {} (number 0 0 raws)).2 with | .out f => some f | _ => none)
      (fun f => f ≠ []) := by
  constructor
  · intro f _ r hr; exact frag_size max f r hr
  · intro f hf h
    have := frag_roundtrip max hmax f hf 0 0 0 0
    rw [h] at this
    cases this
  · intro f hf
    have := frag_roundtrip max hmax f hf 0 0 0 0
    rw [fragDecodeAll_stamp] at this
    simp only [this]

theorem lenAgg_append (a : List NALU) (n : NALU) : lenAgg (a ++ [n]) = lenAgg a + (2 + n.length) := by
  simp [lenAgg]; omega

theorem stapA_length (b : List NALU) : (stapA b).length = lenAgg b := by
  unfold stapA lenAgg
  induction b with
  | nil => simp
  | cons n r ih =>
    simp only [List.flatMap_cons, List.length_cons, List.length_append, List.map_cons, List.sum_cons] at ih ⊢
    omega

theorem splitBatches_forall (max : Nat) (Q : List NALU → Prop) (h1 : ∀ n, Q [n])
    (happ : ∀ b n, Q b → lenAgg b + (2 + n.length) ≤ max → Q (b ++ [n]))
    (l cur : List NALU) (hc : Q cur) : ∀ b ∈ splitBatches max cur l, Q b := by
  fun_induction splitBatches max cur l with
  | case1 cur => simpa using hc
  | case2 cur n rest hfit ih => exact ih (happ _ _ hc hfit)
  | case3 cur n rest hfit he ih => exact ih (h1 n)
  | case4 cur n rest hfit he ih =>
    intro b hb
    rcases List.mem_cons.mp hb with rfl | hb
    · exact hc
    · exact ih (h1 n) b hb

theorem splitBatches_flatten (max : Nat) (l cur : List NALU) :
    (splitBatches max cur l).flatten = cur ++ l := by
  fun_induction splitBatches max cur l <;> simp_all

theorem splitBatches_nil_cons (max : Nat) (n : NALU) (rest : List NALU) :
    splitBatches max [] (n :: rest) = splitBatches max [n] rest := by
  simp [splitBatches]

theorem fuFrags_cons (hdr : UInt8) (start : Bool) (c : Bytes) (rest : List Bytes) :
    fuFrags hdr start (c :: rest) = (fuHdr hdr start rest.isEmpty ++ c) :: fuFrags hdr false rest := by
  cases rest <;> rfl

theorem fuFrags_size (hdr : UInt8) (k : Nat) (cs : List Bytes) (hcs : ∀ c ∈ cs, c.length ≤ k) (start : Bool) :
    ∀ p ∈ fuFrags hdr start cs, p.length ≤ 2 + k := by
  induction cs generalizing start with
  | nil => simp [fuFrags]
  | cons c rest ih =>
    rw [fuFrags_cons]
    intro p hp
    rcases List.mem_cons.mp hp with rfl | hp
    · have := hcs c List.mem_cons_self
      simp [fuHdr]; omega
    · exact ih (fun x hx => hcs x (List.mem_cons_of_mem _ hx)) false p hp

/-- `writeBatch` payloads for `max ≥ 3`, where it cannot panic -/
def batchPls (max : Nat) : List NALU → List Bytes
  | [n] => if n.length < max then [n] else fuA max n
  | b => [stapA b]

theorem batchPayloads_eq (max : Nat) (hmax : 3 ≤ max) (b : List NALU) :
    batchPayloads max b = some (batchPls max b) := by
  match b with
  | [] | _ :: _ :: _ => rfl
  | [n] =>
    simp only [batchPayloads, batchPls]
    split
    · rfl
    · rw [if_neg (by omega)]

theorem allSome_map_some {α β : Type} (f : β → List α) (l : List β) :
    allSome (l.map fun x => some (f x)) = some (l.flatMap f) := by
  induction l with
  | nil => rfl
  | cons x rest ih => simp [allSome, ih]

/-- for `max ≥ 3` the packetiser never panics -/
theorem h264Pack_eq (max : Nat) (hmax : 3 ≤ max) (au : List NALU) :
    h264Pack max au = some (markLast ((splitBatches max [] au).flatMap (batchPls max))) := by
  rw [h264Pack, List.map_congr_left (fun b _ => batchPayloads_eq max hmax b), allSome_map_some]
  rfl

theorem batchPls_size (max : Nat) (hmax : 3 ≤ max) (b : List NALU)
    (hb : (∃ n, b = [n]) ∨ lenAgg b ≤ max) : ∀ p ∈ batchPls max b, p.length ≤ max := by
  unfold batchPls
  split
  · next n =>
    split
    · simp; omega
    · intro p hp
      have := fuFrags_size (n.headD 0) (max - 2) (chunks (max - 2) n.tail)
        (fun c hc => (chunks_size _ _ c hc).2) true p hp
      omega
  · next hns =>
    simp only [List.mem_singleton, forall_eq, stapA_length]
    rcases hb with ⟨n, rfl⟩ | hb
    · exact absurd rfl (hns n)
    · exact hb

/-- **size bound (b2)**: for every access unit (whatever its NAL units) and every `max ≥ 3`, every payload
generated by the H264 packetiser fits `max`. -/
theorem h264_size (max : Nat) (hmax : 3 ≤ max) (au : List NALU) (raws : List Raw)
    (h : h264Pack max au = some raws) : ∀ r ∈ raws, r.payload.length ≤ max := by
  rw [h264Pack_eq max hmax] at h
  cases h
  intro r hr
  have hm : r.payload ∈ (markLast _).map (·.payload) := List.mem_map_of_mem hr
  rw [markLast_payloads] at hm
  obtain ⟨b, hb, hpb⟩ := List.mem_flatMap.mp hm
  refine batchPls_size max hmax b ?_ _ hpb
  exact splitBatches_forall max (fun b => (∃ n, b = [n]) ∨ lenAgg b ≤ max) (fun n => Or.inl ⟨n, rfl⟩)
    (fun b n _ hfit => Or.inr (by rw [lenAgg_append]; exact hfit)) au [] (Or.inr (by simp [lenAgg]; omega)) b hb

theorem allU8 (P : UInt8 → Prop) (h : ∀ n : Nat, n < 256 → P (UInt8.ofNat n)) (x : UInt8) : P x := by
  have := h x.toNat (UInt8.toNat_lt x)
  simpa using this

theorem fuInd_typ : ∀ hdr : UInt8, (fuInd hdr &&& 0x1F).toNat = 28 := by
  apply allU8; decide +kernel

/-- the S and E bits: shifting distributes over the three fields, and the type mask `0x1F` shifted by 6 or 7
is 0 -/
theorem fuB1_bits (hdr : UInt8) (s f : Bool) :
    ((fuB1 hdr s f >>> 7) == 1) = s ∧ (((fuB1 hdr s f >>> 6) &&& 1) == 1) = f := by
  cases s <;> cases f <;>
    simp [fuB1, ← UInt8.toBitVec_inj, BitVec.ushiftRight_or_distrib, BitVec.ushiftRight_and_distrib]

theorem fu_restore : ∀ hdr : UInt8, hdr &&& 0x80 = 0 → ∀ s f : Bool,
    (((fuInd hdr >>> 5) &&& 3) <<< 5) ||| (fuB1 hdr s f &&& 0x1F) = hdr := by
  apply allU8; decide +kernel

theorem containsSeq_tail (a : UInt8) (pat n : Bytes) (h : containsSeq (a :: pat) n = true) :
    containsSeq pat n = true := by
  induction n with
  | nil => simp [containsSeq] at h
  | cons x r ih =>
    simp only [containsSeq, Bool.or_eq_true, List.isPrefixOf_cons_cons, Bool.and_eq_true] at h ⊢
    rcases h with ⟨-, hp⟩ | h
    · cases r with
      | nil => exact Or.inr (by simpa [containsSeq] using hp)
      | cons y r' => exact Or.inr (by simp [containsSeq, hp])
    · exact Or.inr (ih h)

theorem afterFU_clean (d : H264Dec) (n : Bytes) (h : containsSeq [0, 0, 1] n = false) :
    afterFU d n = ({ d with frag := none }, .out [n]) := by
  simp [afterFU, h]

theorem numberM_append (ssrc seq : Nat) (xs ys : List Bytes) (hy : ys ≠ []) :
    numberM ssrc seq true (xs ++ ys) = numberM ssrc seq false xs ++ numberM ssrc (seq + xs.length) true ys := by
  induction xs generalizing seq with
  | nil => simp [numberM]
  | cons c rest ih =>
    simp [numberM, ih (seq + 1), hy, show seq + 1 + rest.length = seq + (rest.length + 1) by omega]

/-- the one-packet clause of `h264DecodeAll` is an instance of the general one -/
theorem h264DecodeAll_cons (d : H264Dec) (p : Pkt) (l : List Pkt) :
    h264DecodeAll d (p :: l) =
      match h264Decode d p with
      | (d', .more) => h264DecodeAll d' l
      | (d', r) => (d', r) := by
  cases l with
  | nil => rcases h : h264Decode d p with ⟨d', _ | _ | _⟩ <;> simp [h264DecodeAll, h]
  | cons q r => rfl

/-- if feeding `xs` only ever answers "more", decoding goes on with the rest -/
theorem h264DecodeAll_append (d d' : H264Dec) (xs ys : List Pkt)
    (h : h264DecodeAll d xs = (d', .more)) : h264DecodeAll d (xs ++ ys) = h264DecodeAll d' ys := by
  induction xs generalizing d with
  | nil => cases h; rfl
  | cons p rest ih =>
    rw [h264DecodeAll_cons] at h
    rw [List.cons_append, h264DecodeAll_cons]
    split at h
    · exact ih _ h
    · next hne _ => cases h; exact (hne rfl).elim
theorem h264Decode_eq (d : H264Dec) (p : Pkt) (hu : d.unmodelled = false) :
    h264Decode d p =
      match h264Nalus d p with
      | (d', .out ns) =>
        if p.marker then ({ d' with frame := [] }, .out (d'.frame ++ ns))
        else ({ d' with frame := d'.frame ++ ns }, .more)
      | (d', .more) => (d', .more)
      | (d', .err) => (d', .err) := by
  rw [h264Decode, if_neg (by simp [hu])]
  rfl

/-- what the packets of one batch `b` do to the decoder: its NAL units are added to the frame collected so far,
which the last batch completes -/
def BatchDec (d : H264Dec) (b : List NALU) (pkts : List Pkt) (last : Bool) : Prop :=
  ∃ d', h264DecodeAll d pkts = (d', if last then .out (d.frame ++ b) else .more) ∧
    (last = false → d'.unmodelled = false ∧ d'.frame = d.frame ++ b)

theorem batchDec_of_nalus (d : H264Dec) (p : Pkt) (ns : List NALU) (last : Bool)
    (hu : d.unmodelled = false) (hm : p.marker = last) (h : h264Nalus d p = ({ d with frag := none }, .out ns)) :
    BatchDec d ns [p] last := by
  unfold BatchDec
  rw [h264DecodeAll, h264Decode_eq d p hu, h, hm]
  cases last
  · exact ⟨_, rfl, fun _ => ⟨hu, rfl⟩⟩
  · exact ⟨_, rfl, fun e => by cases e⟩

theorem clean_facts (n : NALU) (h : cleanNALU n = true) :
    n ≠ [] ∧ (n.headD 0 &&& 0x80 = 0) ∧
    ((n.headD 0 &&& 0x1F).toNat < 24 ∨ 29 < (n.headD 0 &&& 0x1F).toNat) ∧
    containsSeq [0, 0, 1] n = false ∧ n.length < two16 := by
  simpa [cleanNALU, and_assoc] using h

theorem single_nalus (d : H264Dec) (p : Pkt) (hc : cleanNALU p.payload = true) :
    h264Nalus d p = ({ d with frag := none }, .out [p.payload]) := by
  obtain ⟨hne, -, ht, hsc, -⟩ := clean_facts _ hc
  unfold h264Nalus
  cases hp : p.payload with
  | nil => exact absurd hp hne
  | cons b0 rest =>
    rw [hp] at ht hsc
    have h4 : containsSeq [0, 0, 0, 1] (b0 :: rest) = false :=
      Bool.eq_false_iff.mpr fun h => by rw [containsSeq_tail 0 [0, 0, 1] _ h] at hsc; cases hsc
    simp only [List.headD_cons] at ht ⊢
    generalize (b0 &&& 0x1F).toNat = t at ht
    rw [if_neg (by simp; omega), if_neg (by simp; omega), if_neg (by simp; omega), h4]
    rfl

def stapBody (b : List NALU) : Bytes := b.flatMap fun n => hi8 n.length :: lo8 n.length :: n

theorem size_decode (n : Nat) (h : n < two16) : (hi8 n).toNat * 256 + (lo8 n).toNat = n := by
  have : n / 256 < 256 := by unfold two16 at h; omega
  simp only [hi8, lo8, UInt8.toNat_ofNat', Nat.reducePow, Nat.mod_eq_of_lt this, Nat.mod_mod]
  exact Nat.div_add_mod' n 256

theorem parseStap_body (b : List NALU) (hb : b ≠ []) (hc : ∀ n ∈ b, n ≠ [] ∧ n.length < two16)
    (fuel : Nat) (hf : (stapBody b).length < fuel) : parseStap fuel (stapBody b) = some b := by
  induction b generalizing fuel with
  | nil => exact absurd rfl hb
  | cons n rest ih =>
    cases fuel with
    | zero => simp at hf
    | succ f =>
      have hn := hc n List.mem_cons_self
      have hbody : stapBody (n :: rest) = hi8 n.length :: lo8 n.length :: (n ++ stapBody rest) := by
        simp [stapBody]
      rw [hbody] at hf
      have hne : (n.length == 0) = false := by simpa using hn.1
      have hle : ¬ n.length > (n ++ stapBody rest).length := by simp
      rw [hbody, parseStap]
      simp only [size_decode n.length hn.2, hne, Bool.false_eq_true, if_false, hle, List.take_left',
        List.drop_left']
      cases rest with
      | nil => simp [stapBody]
      | cons m rest' =>
        have hne2 : (stapBody (m :: rest')).isEmpty = false := by simp [stapBody]
        simp only [hne2, Bool.false_eq_true, if_false]
        rw [ih (by simp) (fun x hx => hc x (List.mem_cons_of_mem _ hx)) f (by simp at hf; omega)]
        rfl

theorem stap_nalus (d : H264Dec) (p : Pkt) (b : List NALU) (hp : p.payload = stapA b) (hb : b ≠ [])
    (hc : ∀ n ∈ b, n ≠ [] ∧ n.length < two16) :
    h264Nalus d p = ({ d with frag := none }, .out b) := by
  have h24 : ((24 : UInt8) &&& 0x1F).toNat = 24 := by decide
  rw [h264Nalus, hp, show stapA b = 24 :: stapBody b from rfl]
  simp only [h24]
  rw [parseStap_body b hb hc _ (Nat.lt_succ_self _)]
  cases b with
  | nil => exact absurd rfl hb
  | cons n ns => rfl

/-- FU-A packet.  `acc` = the bytes of the NAL unit before this fragment: the restored header byte alone for
a start fragment, else what the decoder has under reassembly -/
theorem fu_nalus (d : H264Dec) (p : Pkt) (hdr : UInt8) (s f : Bool) (c acc : Bytes)
    (hp : p.payload = fuHdr hdr s f ++ c) (hF : hdr &&& 0x80 = 0)
    (hacc : if s then acc = [hdr] else d.frag = some acc ∧ d.next = p.seq) :
    h264Nalus d p =
      if f then afterFU d (acc ++ c)
      else ({ d with frag := some (acc ++ c), next := (p.seq + 1) % two16 }, .more) := by
  rw [h264Nalus, hp]
  simp only [fuHdr, List.cons_append, List.nil_append, fuInd_typ, (fuB1_bits hdr s f).1,
    (fuB1_bits hdr s f).2, fu_restore hdr hF s f]
  cases s with
  | true => simp only [if_true] at hacc; subst hacc; rfl
  | false => simp [hacc.1, hacc.2]

/-- FU-A: the fragments `cs` of a NAL unit of which `acc` has been sent before (`start`: nothing yet, `acc` is
the header byte; else `acc` is under reassembly in the decoder, which expects `sq`) -/
theorem fu_decode (ssrc : Nat) (hdr : UInt8) (hF : hdr &&& 0x80 = 0) (last : Bool) (cs : List Bytes)
    (hne : cs ≠ []) (start : Bool) (sq : Nat) (acc : Bytes) (d : H264Dec) (hu : d.unmodelled = false)
    (hacc : if start then acc = [hdr] else d.frag = some acc ∧ d.next = sq % two16)
    (hclean : containsSeq [0, 0, 1] (acc ++ cs.flatten) = false) :
    BatchDec d [acc ++ cs.flatten] (numberM ssrc sq last (fuFrags hdr start cs)) last := by
  induction cs generalizing start sq acc d with
  | nil => exact absurd rfl hne
  | cons c rest ih =>
    rw [fuFrags_cons, numberM]
    have hn := fu_nalus d ⟨ssrc, sq % two16, 0, last && (fuFrags hdr false rest).isEmpty,
      fuHdr hdr start rest.isEmpty ++ c⟩ hdr start rest.isEmpty c acc rfl hF hacc
    cases rest with
    | nil =>
      simp only [List.flatten_cons, List.flatten_nil, List.append_nil] at hclean ⊢
      rw [List.isEmpty_nil, if_pos rfl, afterFU_clean d _ hclean] at hn
      exact batchDec_of_nalus d _ _ last hu (by simp [fuFrags]) hn
    | cons c2 rest' =>
      rw [List.isEmpty_cons] at hn ⊢
      rw [if_neg (by simp)] at hn
      -- the packet only adds to the NAL unit under reassembly; the frame stays as it is
      obtain ⟨d', h1, h2⟩ := ih (by simp) false (sq + 1) (acc ++ c)
        { d with frag := some (acc ++ c), next := (sq % two16 + 1) % two16 } hu
        ⟨rfl, by simp only [two16]; omega⟩ (by simpa using hclean)
      rw [List.append_assoc] at h1 h2
      refine ⟨d', ?_, h2⟩
      rw [h264DecodeAll_cons, h264Decode_eq d _ hu, hn]
      exact h1

theorem batch_decode (max : Nat) (hmax : 3 ≤ max) (ssrc sq : Nat) (last : Bool) (b : List NALU)
    (hb : b ≠ []) (hc : ∀ n ∈ b, cleanNALU n = true) (d : H264Dec) (hu : d.unmodelled = false) :
    BatchDec d b (numberM ssrc sq last (batchPls max b)) last := by
  unfold batchPls
  split
  · next n =>
    obtain ⟨hne, hF, -, hcl, -⟩ := clean_facts n (hc n List.mem_cons_self)
    split
    · exact batchDec_of_nalus d _ [n] last hu (by simp) (single_nalus d _ (hc n List.mem_cons_self))
    · next hge =>
      cases n with
      | nil => exact absurd rfl hne
      | cons hdr body =>
        have hbody : body ≠ [] := by rintro rfl; simp at hge; omega
        have hfl := chunks_flatten (max - 2) (by omega) body
        have := fu_decode ssrc hdr hF last (chunks (max - 2) body) (chunks_ne_nil _ (by omega) body hbody)
          true sq [hdr] d hu rfl (by rw [hfl]; exact hcl)
        rw [hfl] at this
        exact this
  · exact batchDec_of_nalus d _ b last hu (by simp)
      (stap_nalus d _ b rfl hb (fun n hn => ⟨(clean_facts n (hc n hn)).1, (clean_facts n (hc n hn)).2.2.2.2⟩))

theorem batches_decode (max : Nat) (hmax : 3 ≤ max) (ssrc : Nat) (bs : List (List NALU)) (hbs : bs ≠ [])
    (hgood : ∀ b ∈ bs, b ≠ [] ∧ ∀ n ∈ b, cleanNALU n = true) (sq : Nat) (d : H264Dec)
    (hu : d.unmodelled = false) :
    (h264DecodeAll d (numberM ssrc sq true (bs.flatMap (batchPls max)))).2 = .out (d.frame ++ bs.flatten) := by
  induction bs generalizing sq d with
  | nil => exact absurd rfl hbs
  | cons b rest ih =>
    have hg := hgood b List.mem_cons_self
    cases rest with
    | nil =>
      obtain ⟨d', h1, -⟩ := batch_decode max hmax ssrc sq true b hg.1 hg.2 d hu
      simp [h1]
    | cons b2 rest' =>
      obtain ⟨d', h1, h2⟩ := batch_decode max hmax ssrc sq false b hg.1 hg.2 d hu
      have hih := ih (by simp) (fun x hx => hgood x (List.mem_cons_of_mem _ hx))
        (sq + (batchPls max b).length) d' (h2 rfl).1
      rw [(h2 rfl).2] at hih
      -- the remaining batches yield packets: none would leave the decoder waiting
      have hne : (b2 :: rest').flatMap (batchPls max) ≠ [] := by intro e; rw [e] at hih; cases hih
      rw [List.flatMap_cons, numberM_append ssrc sq _ _ hne, h264DecodeAll_append d d' _ _ h1, hih]
      simp

theorem h264Decode_stamp (d : H264Dec) (off : Nat) (pts : Int) (p : Pkt) :
    h264Decode d (stamp off pts p) = h264Decode d p := rfl

theorem h264DecodeAll_stamp (d : H264Dec) (off : Nat) (pts : Int) (l : List Pkt) :
    h264DecodeAll d (l.map (stamp off pts)) = h264DecodeAll d l := by
  induction l generalizing d with
  | nil => rfl
  | cons p rest ih => simp only [List.map_cons, h264DecodeAll_cons, h264Decode_stamp, ih]

/-- **lossless (b2)**: for every non-empty access unit of clean NAL units (not empty, forbidden bit clear,
type outside 24–29, no start code inside, < 64 KiB) and every `max ≥ 3`, the packetiser does not panic and
feeding the delivered packets of the unit (numbered from any sequence number, stamped with any offset) to a
fresh `rtph264.Decoder` yields exactly the access unit. -/
theorem h264_roundtrip (max : Nat) (hmax : 3 ≤ max) (au : List NALU) (hau : au ≠ [])
    (hc : ∀ n ∈ au, cleanNALU n = true) (ssrc seq off : Nat) (pts : Int) :
    ∃ raws, h264Pack max au = some raws ∧ raws ≠ [] ∧
      (h264DecodeAll {} ((number ssrc seq raws).map (stamp off pts))).2 = .out au := by
  obtain ⟨n, rest, rfl⟩ := List.exists_cons_of_ne_nil hau
  have hfl := splitBatches_flatten max rest [n]
  have hclean : ∀ b ∈ splitBatches max [n] rest, ∀ m ∈ b, cleanNALU m = true := fun b hb m hm =>
    hc m (by simpa [hfl] using List.mem_flatten.mpr ⟨b, hb, hm⟩)
  have hne := splitBatches_forall max (· ≠ []) (by simp) (by simp) rest [n] (by simp)
  have hdec : (h264DecodeAll {} ((number ssrc seq (markLast ((splitBatches max [] (n :: rest)).flatMap
      (batchPls max)))).map (stamp off pts))).2 = .out (n :: rest) := by
    rw [splitBatches_nil_cons, h264DecodeAll_stamp, number_markLast,
      batches_decode max hmax ssrc _ (by intro e; simp [e] at hfl)
        (fun b hb => ⟨hne b hb, hclean b hb⟩) seq {} rfl, hfl]
    rfl
  -- an empty packet list would leave the decoder waiting
  refine ⟨_, h264Pack_eq max hmax _, ?_, hdec⟩
  intro e
  rw [e] at hdec
  cases hdec

/-- the H264 packetiser satisfies the contract used in (a) -/
theorem h264_packOK (max : Nat) (hmax : 3 ≤ max) :
    PackOK max (fun au => (h264Pack max au).getD [])
      (fun raws => match (h264DecodeAll {} (number 0 0 raws)).2 with | .out au => some au | _ => none)
      (fun au => au ≠ [] ∧ ∀ n ∈ au, cleanNALU n = true) := by
  constructor
  · intro au _ r hr
    rw [h264Pack_eq max hmax] at hr
    exact h264_size max hmax au _ (h264Pack_eq max hmax au) r hr
  all_goals
    intro au hv
    obtain ⟨raws, h1, h2, h3⟩ := h264_roundtrip max hmax au hv.1 hv.2 0 0 0 0
    rw [h1]
  · exact h2
  · rw [h264DecodeAll_stamp] at h3
    simp only [Option.getD_some, h3]

theorem opusPackFrom_get (acc : Nat) (l : List Bytes) (i : Nat) (p : Bytes) (h : l[i]? = some p) :
    (opusPackFrom acc l)[i]? =
      some { marker := false, payload := p, dts := acc + ((l.take i).map opusDur).sum } := by
  induction l generalizing acc i with
  | nil => simp at h
  | cons x rest ih =>
    cases i with
    | zero => simp at h; subst h; simp [opusPackFrom]
    | succ j =>
      simp only [List.getElem?_cons_succ] at h
      simp only [opusPackFrom, List.getElem?_cons_succ, List.take_succ_cons, List.map_cons, List.sum_cons]
      rw [ih (acc + opusDur x) j h, Nat.add_assoc]

/-- **Opus timestamp rule**: packet `i` of a unit carries the packet itself, no marker, and the summed
durations of the packets before it — so after `number`/`stamp` its RTP timestamp is
`unit timestamp + fixed offset + Σ_{j<i} duration(packet j)` (`generated_get`). -/
theorem opus_ts (l : List Bytes) (i : Nat) (p : Bytes) (h : l[i]? = some p) :
    (opusPack l)[i]? = some { marker := false, payload := p, dts := ((l.take i).map opusDur).sum } := by
  simpa [opusPack] using opusPackFrom_get 0 l i p h

theorem opusPackFrom_payloads (acc : Nat) (l : List Bytes) : (opusPackFrom acc l).map (·.payload) = l := by
  fun_induction opusPackFrom acc l <;> simp_all

/-- the Opus packetiser satisfies the contract of (a) on units whose packets fit the maximum (the encoder
itself never splits or checks a packet) -/
theorem opus_packOK (max : Nat) :
    PackOK max opusPack opusUnpack (fun l => l ≠ [] ∧ ∀ p ∈ l, p.length ≤ max) := by
  constructor
  · intro l hv r hr
    have : r.payload ∈ (opusPack l).map (·.payload) := List.mem_map_of_mem hr
    rw [opusPack, opusPackFrom_payloads] at this
    exact hv.2 _ this
  · intro l hv h
    have := congrArg (List.map (·.payload)) h
    rw [opusPack, opusPackFrom_payloads] at this
    exact hv.1 this
  · intro l _
    simp [opusUnpack, opusPack, opusPackFrom_payloads]

-- 20 ms (config 1, code 0), then 2 x 60 ms (config 3, code 1), then code 3 with 3 frames of 10 ms (config 16..: 2.5 ms)
example : (opusPack [[0x08, 1], [0x19, 2], [0x83, 0x03, 9], [0x08]]).map (·.dts) = [0, 960, 960 + 5760, 960 + 5760 + 360] := by
  decide +kernel
example : opusDur [0x83] = 0 := by decide +kernel

example : cleanNALU [0x65, 1, 2, 3] = true := by decide +kernel
example : cleanNALU [0x65, 0, 0, 1] = false := by decide +kernel     -- start code inside
example : cleanNALU [0x7C, 1] = false := by decide +kernel           -- type 28
-- max = 5: [65 01 02 03 04 05 06] is fragmented into FU-A pieces of ≤ 3 bytes
example : (h264Pack 5 [[0x65, 1, 2, 3, 4, 5, 6]]).map (·.map (·.payload)) =
    some [[0x7C, 0x85, 1, 2, 3], [0x7C, 0x45, 4, 5, 6]] := by decide +kernel
-- two small NAL units are aggregated (STAP-A), the third one does not fit any more
example : (h264Pack 12 [[0x67, 1], [0x68, 2], [0x65, 3, 4, 5, 6, 7, 8]]).map (·.map (·.payload)) =
    some [[24, 0, 2, 0x67, 1, 0, 2, 0x68, 2], [0x65, 3, 4, 5, 6, 7, 8]] := by decide +kernel
example : (h264DecodeAll {} (number 7 65535 ((h264Pack 5 [[0x65, 1, 2, 3, 4, 5, 6], [0x41, 9]]).getD []))).2 =
    .out [[0x65, 1, 2, 3, 4, 5, 6], [0x41, 9]] := by decide +kernel
example : h264Pack 2 [[0x65, 1, 2]] = none := by decide +kernel       -- Go: integer division by zero
example : (fragPack 3 [1, 2, 3, 4, 5, 6, 7]).map (·.payload) = [[1, 2, 3], [4, 5, 6], [7]] := by decide +kernel
example : av1NoRoom 64 [List.replicate 35 0, List.replicate 26 0, List.replicate 17 0] = true := by decide +kernel
example : av1NoRoom 64 [List.replicate 35 0, List.replicate 25 0, List.replicate 17 0] = false := by decide +kernel

end MtxVerif.C23
