/-
C03 — every media publish or read is authorized for that path and action.  Property theorems.

Part A (state machine, all histories, all authentication managers): one step of the path manager either
  refuses and leaves the state alone, or gives a `Granted` answer (`step_cases`); `attach_needs_auth`,
  `attach_action_matches`, `publisher_conf_current`, `find_authenticates`, `two_step_sound` (the pattern the
  SkipAuth publishers follow), `refused_no_change` and `spec_accepts_model` read this off.
Part B (tables regenerated from the source, kernel evaluation):
  `skipAuth_sites_justified`, `no_other_skipAuth_use`, `expectations_all_used`, `calls_well_formed`.
Part C: what the checker of recorded connection traces accepts.
-/
import MtxVerif.Model.C03
import MtxVerif.Gen.C03
import MtxVerif.Lemmas.C03C04IteNone

namespace MtxVerif.C03

/-! ### Part A -/

def Out.isRefusal : Out → Bool
  | .noPath | .changed | .authErr _ | .noStream => true
  | _ => false

/-- the answers that are not refusals, each with what the path manager checked before giving it -/
inductive Granted (auth : AuthFn) (s : St) : Op → Out → Prop
  | find {cl r c} : findConf s.confs r.name r.valid = some c → auth (toAuth r) = .ok →
      Granted auth s (.find cl r) (.found c)
  | describe {cl r} : r.skipAuth = true ∨ auth (toAuth r) = .ok → Granted auth s (.describe cl r) .described
  | addReader {cl r} : r.skipAuth = true ∨ auth (toAuth r) = .ok →
      Granted auth s (.addReader cl r) (.attached cl r.name false)
  | addPublisher {cl r cmp c} : findConf s.confs r.name r.valid = some c → (∀ c', cmp = some c' → c' = c) →
      r.skipAuth = true ∨ auth (toAuth r) = .ok →
      Granted auth s (.addPublisher cl r cmp) (.attached cl r.name true)
  | reload {cs} : Granted auth s (.reload cs) .reloaded

theorem gate_cases (auth : AuthFn) (s : St) (r : AccessReq) (cmp : Option Conf) :
    (∃ e, gate auth s r cmp = some e ∧ e.isRefusal = true) ∨
    (gate auth s r cmp = none ∧ ∃ c, findConf s.confs r.name r.valid = some c ∧
      (∀ c', cmp = some c' → c' = c) ∧ (r.skipAuth = true ∨ auth (toAuth r) = .ok)) := by
  unfold gate
  cases findConf s.confs r.name r.valid with
  | none => exact Or.inl ⟨.noPath, rfl, rfl⟩
  | some c =>
    dsimp only
    cases hm : cmpMismatch cmp c with
    | true => exact Or.inl ⟨.changed, rfl, rfl⟩
    | false =>
      have hcmp : ∀ c', cmp = some c' → c' = c := fun c' hc => by simpa [cmpMismatch, hc] using hm
      cases hs : r.skipAuth with
      | true => exact Or.inr ⟨rfl, c, rfl, hcmp, Or.inl rfl⟩
      | false =>
        cases ha : auth (toAuth r) with
        | ok => exact Or.inr ⟨rfl, c, rfl, hcmp, Or.inr rfl⟩
        | denyAsk => exact Or.inl ⟨.authErr true, rfl, rfl⟩
        | deny => exact Or.inl ⟨.authErr false, rfl, rfl⟩

theorem step_cases (auth : AuthFn) (s : St) (op : Op) :
    ((step auth s op).2.isRefusal = true ∧ (step auth s op).1 = s) ∨ Granted auth s op (step auth s op).2 := by
  cases op with
  | find cl r =>
    simp only [step]
    cases hf : findConf s.confs r.name r.valid with
    | none => exact Or.inl ⟨rfl, rfl⟩
    | some c =>
      cases ha : auth (toAuth r) with
      | ok => exact Or.inr (.find hf ha)
      | denyAsk => exact Or.inl ⟨rfl, rfl⟩
      | deny => exact Or.inl ⟨rfl, rfl⟩
  | describe cl r | addReader cl r =>
    simp only [step]
    rcases gate_cases auth s r none with ⟨e, hg, he⟩ | ⟨hg, c, hf, hcmp, hauth⟩
    · rw [hg]; exact Or.inl ⟨he, rfl⟩
    · rw [hg]
      cases hasPub s r.name
      · exact Or.inl ⟨rfl, rfl⟩
      · exact Or.inr (by constructor; exact hauth)
  | addPublisher cl r cmp =>
    simp only [step]
    rcases gate_cases auth s r cmp with ⟨e, hg, he⟩ | ⟨hg, c, hf, hcmp, hauth⟩
    · rw [hg]; exact Or.inl ⟨he, rfl⟩
    · rw [hg, hf]; exact Or.inr (.addPublisher hf hcmp hauth)
  | reload cs => exact Or.inr .reload

/-- every entry of a history is one `step` from the state recorded with it -/
theorem trace_step (auth : AuthFn) (s : St) (ops : List Op) :
    ∀ e ∈ trace auth s ops, e.2.2 = (step auth e.1 e.2.1).2 := by
  induction ops generalizing s with
  | nil => intro e he; cases he
  | cons op rest ih =>
    intro e he
    simp only [trace, List.mem_cons] at he
    rcases he with rfl | he
    · rfl
    · exact ih _ e he

theorem trace_granted {auth : AuthFn} {s : St} {ops : List Op} {e : St × Op × Out}
    (he : e ∈ trace auth s ops) (h : e.2.2.isRefusal = false) : Granted auth e.1 e.2.1 e.2.2 := by
  rw [trace_step auth s ops e he] at h ⊢
  exact (step_cases auth e.1 e.2.1).resolve_left fun h' => by simp [h] at h'

/-- **attach_needs_auth** — in any history, for any authentication manager: whenever a client is attached as
    publisher/reader of `nm`, that very op carried a request for exactly the name `nm` which the authentication
    manager admitted, or which was marked SkipAuth (the only other way; Part B accounts for every such site). -/
theorem attach_needs_auth (auth : AuthFn) (s : St) (ops : List Op) :
    ∀ e ∈ trace auth s ops, ∀ cl nm pub, e.2.2 = .attached cl nm pub →
      ∃ r, e.2.1.req? = some r ∧ r.name = nm ∧ (toAuth r).path = nm ∧
        (r.skipAuth = true ∨ auth (toAuth r) = .ok) ∧
        (if pub then ∃ cmp, e.2.1 = .addPublisher cl r cmp else e.2.1 = .addReader cl r) := by
  rintro ⟨s', op, out⟩ he cl nm pub rfl
  cases trace_granted he rfl with
  | addReader hauth => exact ⟨_, rfl, rfl, rfl, hauth, rfl⟩
  | addPublisher _ _ hauth => exact ⟨_, rfl, rfl, rfl, hauth, _, rfl⟩

/-- callers pass `Publish: true` to AddPublisher and `Publish: false` to AddReader/Describe
    (`calls_well_formed` below establishes this for every call site in the source) -/
def OpWF : Op → Prop
  | .addPublisher _ r _ => r.publish = true
  | .addReader _ r => r.publish = false
  | .describe _ r => r.publish = false
  | _ => True

/-- … and then the action that was authorized is the matching one. -/
theorem attach_action_matches (auth : AuthFn) (s : St) (ops : List Op) :
    ∀ e ∈ trace auth s ops, OpWF e.2.1 → ∀ cl nm pub, e.2.2 = .attached cl nm pub →
      ∃ r, e.2.1.req? = some r ∧ (toAuth r).path = nm ∧
        (toAuth r).action = (if pub then .publish else .read) ∧
        (r.skipAuth = true ∨ auth (toAuth r) = .ok) := by
  rintro ⟨s', op, out⟩ he hwf cl nm pub rfl
  cases trace_granted he rfl with
  | addReader hauth => exact ⟨_, rfl, rfl, by simp [toAuth, show _ = false from hwf], hauth⟩
  | addPublisher _ _ hauth => exact ⟨_, rfl, rfl, by simp [toAuth, show _ = true from hwf], hauth⟩

/-- **publisher_conf_current** — a publisher that names the configuration it was authorized against is
    attached only if that configuration is the one in force for the path AT THAT MOMENT of the history
    (so any reload in between that changed it makes the attach fail). -/
theorem publisher_conf_current (auth : AuthFn) (s : St) (ops : List Op) :
    ∀ e ∈ trace auth s ops, ∀ cl r c cl' nm, e.2.1 = .addPublisher cl r (some c) →
      e.2.2 = .attached cl' nm true → findConf e.1.confs r.name r.valid = some c := by
  rintro ⟨s', op, out⟩ he cl r c cl' nm rfl rfl
  cases trace_granted he rfl with
  | addPublisher hf hcmp _ => rw [hf, hcmp c rfl]

/-- `FindPathConf` authenticates ALWAYS (SkipAuth is not honoured there) and returns the configuration in force. -/
theorem find_authenticates (auth : AuthFn) (s : St) (ops : List Op) :
    ∀ e ∈ trace auth s ops, ∀ cl r c, e.2.1 = .find cl r → e.2.2 = .found c →
      auth (toAuth r) = .ok ∧ findConf e.1.confs r.name r.valid = some c := by
  rintro ⟨s', op, out⟩ he cl r c rfl rfl
  cases trace_granted he rfl with
  | find hf ha => exact ⟨ha, hf⟩

/-- **the two-step pattern** (what every SkipAuth publisher site does): somewhere in the history
    `FindPathConf(name, publish)` succeeded with configuration `c`; later — after arbitrary other ops,
    including reloads — `AddPublisher(name, SkipAuth, ConfToCompare = c)` attached.  Then the authentication
    manager admitted `publish` on exactly that name, and `c` is the configuration in force at the attach. -/
theorem two_step_sound (auth : AuthFn) (s : St) (ops : List Op)
    (e1 e2 : St × Op × Out) (h1 : e1 ∈ trace auth s ops) (h2 : e2 ∈ trace auth s ops)
    (cl : Nat) (r1 r2 : AccessReq) (c : Conf) (cl' : Nat) (nm : Bytes)
    (hf : e1.2.1 = .find cl r1) (hfo : e1.2.2 = .found c) (hpub : r1.publish = true)
    (ha : e2.2.1 = .addPublisher cl r2 (some c)) (hao : e2.2.2 = .attached cl' nm true)
    (hname : r2.name = r1.name) :
    auth (toAuth r1) = .ok ∧ (toAuth r1).action = .publish ∧ (toAuth r1).path = nm ∧
    findConf e2.1.confs r2.name r2.valid = some c := by
  obtain ⟨r, hr, hn, _⟩ := attach_needs_auth auth s ops e2 h2 cl' nm true hao
  rw [ha] at hr
  cases hr
  exact ⟨(find_authenticates auth s ops e1 h1 cl r1 c hf hfo).1, by simp [toAuth, hpub],
    hname.symm.trans hn, publisher_conf_current auth s ops e2 h2 cl r2 c cl' nm ha hao⟩

/-- a reload that changed the configuration between authorization and attach makes the attach fail -/
theorem stale_conf_rejected (auth : AuthFn) (s : St) (cl : Nat) (r : AccessReq) (c c' : Conf)
    (hf : findConf s.confs r.name r.valid = some c') (hne : c ≠ c') :
    step auth s (.addPublisher cl r (some c)) = (s, .changed) := by
  have : cmpMismatch (some c) c' = true := by simpa [cmpMismatch] using hne
  simp [step, gate, hf, this]

/-- refused requests leave no trace in the state -/
theorem refused_no_change (auth : AuthFn) (s : St) (op : Op) (h : (step auth s op).2.isRefusal = true) :
    (step auth s op).1 = s := by
  rcases step_cases auth s op with h' | hG
  · exact h'.2
  · generalize (step auth s op).2 = out at h hG
    cases hG <;> cases h

theorem specOp_refusal (auth : AuthFn) (s : St) (op : Op) (out : Out) (h : out.isRefusal = true) :
    specOp auth s op out = none := by
  cases out with
  | found | described | attached | reloaded => cases h
  | _ => cases op <;> rfl

/-- the executable spec (what the driver evaluates on the implementation's answers) accepts every answer of
    the model: the spec demands nothing the proved model does not do. -/
theorem spec_accepts_model (auth : AuthFn) (s : St) (op : Op) :
    specOp auth s op (step auth s op).2 = none := by
  rcases step_cases auth s op with h | hG
  · exact specOp_refusal auth s op _ h.1
  · generalize (step auth s op).2 = out at hG
    -- what the spec asks of an answer that is not a refusal is what `Granted` records
    have hA {r : AccessReq} (h : r.skipAuth = true ∨ auth (toAuth r) = .ok) :
        (!r.skipAuth && auth (toAuth r) != AuthRes.ok) = false := by
      rcases h with h | h <;> simp [h]
    unfold specOp
    cases hG with
    | find hf ha => simp [hf, ha]
    | describe hauth => simp [hA hauth]
    | addReader hauth => simp [hA hauth]
    | @addPublisher cl r cmp c hf hcmp hauth =>
      cases cmp with
      | none => simp [hA hauth]
      | some c' => simp [hA hauth, hf, hcmp c' rfl]
    | reload => rfl

/-! ### Part B: the regenerated tables -/

/-- hand-written expectation per site: which argument justifies skipping authentication there.
    A new SkipAuth site in the source has no row here ⇒ `skipAuth_sites_justified` fails ⇒ the build breaks. -/
def expectations : List Expect := [
  -- RTMP publish: FindPathConf(pathName, Publish) … AddPublisher(pathName, ConfToCompare: res1.Conf), one function
  { file := asc ['i','n','t','e','r','n','a','l','/','s','e','r','v','e','r','s','/','r','t','m','p','/','c','o','n','n','.','g','o'],
    fn := asc ['r','u','n','P','u','b','l','i','s','h'], kind := .twoStep },
  -- SRT publish: runPublish does FindPathConf(streamID.path) and hands res.Conf + streamID to runPublishReader
  { file := asc ['i','n','t','e','r','n','a','l','/','s','e','r','v','e','r','s','/','s','r','t','/','c','o','n','n','.','g','o'],
    fn := asc ['r','u','n','P','u','b','l','i','s','h','R','e','a','d','e','r'], kind := .twoStep },
  -- WebRTC (WHIP) publish: one function
  { file := asc ['i','n','t','e','r','n','a','l','/','s','e','r','v','e','r','s','/','w','e','b','r','t','c','/','s','e','s','s','i','o','n','.','g','o'],
    fn := asc ['r','u','n','P','u','b','l','i','s','h'], kind := .twoStep },
  -- RTSP: ANNOUNCE handler authenticates and stores s.pathConf, RECORD handler attaches with it
  { file := asc ['i','n','t','e','r','n','a','l','/','s','e','r','v','e','r','s','/','r','t','s','p','/','s','e','s','s','i','o','n','.','g','o'],
    fn := asc ['o','n','R','e','c','o','r','d'], kind := .twoStepAcrossHandlers },
  -- RTSP MPEG-TS demuxer: created in onRecord with pathConf: s.pathConf, publishes on behalf of the session
  { file := asc ['i','n','t','e','r','n','a','l','/','s','e','r','v','e','r','s','/','r','t','s','p','/','m','p','e','g','t','s','_','d','e','m','u','x','e','r','.','g','o'],
    fn := asc ['d','o','R','u','n'], kind := .twoStepAcrossHandlers },
  -- HLS muxer: server-side reader, created by Server.createMuxer only (always-remux, or on behalf of a session
  -- whose own AddReader succeeded)
  { file := asc ['i','n','t','e','r','n','a','l','/','s','e','r','v','e','r','s','/','h','l','s','/','m','u','x','e','r','.','g','o'],
    fn := asc ['r','u','n','I','n','n','e','r'], kind := .internalReader [asc ['c','r','e','a','t','e','M','u','x','e','r']] },
  -- HLS CDN session: SkipAuth only if the request carried the configured CDN secret (C43)
  { file := asc ['i','n','t','e','r','n','a','l','/','s','e','r','v','e','r','s','/','h','l','s','/','s','e','s','s','i','o','n','.','g','o'],
    fn := asc ['i','n','i','t','i','a','l','i','z','e'], kind := .sharedSecret },
  -- RPi camera secondary stream: static source reading the primary path named in the configuration
  { file := asc ['i','n','t','e','r','n','a','l','/','s','t','a','t','i','c','s','o','u','r','c','e','s','/','r','p','i','c','a','m','e','r','a','/','s','o','u','r','c','e','_','a','r','m','_','.','g','o'],
    fn := asc ['w','a','i','t','F','o','r','P','r','i','m','a','r','y'], kind := .internalReader [] }
]

/-- every place in internal/** that sets SkipAuth is one of the expected sites and the facts its
    justification needs were re-established from the current source. -/
theorem skipAuth_sites_justified : ∀ s ∈ Gen.C03.sites, siteJustified expectations s = true := by decide +kernel

/-- the identifier is not used in any other way (e.g. set from a variable) -/
theorem no_other_skipAuth_use : Gen.C03.otherSkipAuthUses = 0 := by decide +kernel

/-- no stale expectation: each row still corresponds to a site -/
theorem expectations_all_used :
    ∀ e ∈ expectations, (Gen.C03.sites.any fun s => e.file == s.file && e.fn == s.fn) = true := by decide +kernel

/-- every call of AddPublisher / AddReader / Describe / FindPathConf in internal/** passes a request whose
    `Publish` flag matches the method (`OpWF`), so the authorized action is the matching one. -/
theorem calls_well_formed : ∀ c ∈ Gen.C03.calls, callOK c = true := by decide +kernel

/-- the publisher sites all name the configuration they were authorized against -/
theorem publisher_sites_compare_conf :
    ∀ s ∈ Gen.C03.sites, s.target = .addPublisher → s.cmpPresent = true ∧ s.cmpIsFindConf = true := by decide +kernel

/-! ### Part C: traces recorded at the real protocol servers -/

theorem checkFrom_sound (secretOK : Bool) (prev evs : List Ev) (h : checkFrom secretOK prev evs = none) :
    ∀ pre e post, evs = pre ++ e :: post → evProblem secretOK (prev ++ pre) e = none := by
  induction evs generalizing prev with
  | nil => intro pre e post he; cases pre <;> cases he
  | cons x xs ih =>
    intro pre e post he
    unfold checkFrom at h
    split at h
    · cases h
    · rename_i hx
      cases pre with
      | nil =>
        cases he
        rwa [List.append_nil]
      | cons y ys =>
        cases he
        have := ih (prev ++ [x]) h ys e post rfl
        rwa [List.append_assoc] at this

/-- **accepted traces are authorized**: in a connection trace the checker accepts, every attach the path
    manager granted is for a request that (a) carried credentials the permission table admits for exactly
    that name and the matching action, or (b) was SkipAuth and is preceded IN THE SAME CONNECTION by such an
    admitted, non-SkipAuth, granted request for exactly that name and action — for a publisher by the
    FindPathConf whose configuration it names in ConfToCompare — or (c) is a reader of a client that
    presented the CDN secret. -/
theorem accepted_trace_authorized (secretOK : Bool) (evs : List Ev) (h : checkTrace secretOK evs = none) :
    ∀ pre e post, evs = pre ++ e :: post → e.isAttach = true →
      ((e.kind == .addPub) = e.publish) ∧
      ((e.skip = false ∧ e.admitted = true) ∨
       (e.skip = true ∧ ∃ f ∈ pre, justifies f e = true) ∨
       (e.skip = true ∧ secretOK = true ∧ e.kind = .addReader)) := by
  intro pre e post he ha
  have hp := checkFrom_sound secretOK [] evs h pre e post he
  have hk : (e.kind == EvKind.media) = false := by
    simp only [Ev.isAttach, Bool.and_eq_true, Bool.or_eq_true, beq_iff_eq] at ha
    rcases ha.2 with h | h <;> simp [h]
  -- the checker's chain of tests for an attach event, read as a proposition
  simp [evProblem, hk, ha, ite_eq_none] at hp
  refine ⟨hp.1, hp.2.imp_right fun ⟨hs, h⟩ => ?_⟩
  by_cases hj : ∃ f ∈ pre, justifies f e = true
  · exact Or.inl ⟨hs, hj⟩
  · exact Or.inr ⟨hs, h (by simpa using hj)⟩

/-- **media is backed by an authorization for that path**: in an accepted trace, every media response that was
    served for path `p` is preceded in the same session by an admitted, granted, non-SkipAuth reader request for
    exactly `p` (or the client holds the CDN secret). -/
theorem accepted_media_authorized (evs : List Ev) (h : checkTrace false evs = none) :
    ∀ pre e post, evs = pre ++ e :: post → e.kind = .media → e.granted = true →
      ∃ f ∈ pre, f.skip = false ∧ f.publish = false ∧ f.admitted = true ∧ f.granted = true ∧ f.name = e.name := by
  intro pre e post he hk hg
  have hp := checkFrom_sound false [] evs h pre e post he
  simp [evProblem, hk, hg] at hp
  obtain ⟨f, hf, hbf⟩ := hp
  simp only [backsMedia, Bool.and_eq_true, Bool.not_eq_true', beq_iff_eq, bne_iff_ne] at hbf
  exact ⟨f, hf, hbf.1.1.1.1.2, hbf.1.1.1.2, hbf.1.1.2, hbf.1.2, hbf.2⟩

/-- what `justifies` gives for a publisher: the earlier request is an admitted FindPathConf for the same name
    with Publish, and ConfToCompare names the configuration it returned. -/
theorem justifies_publisher (f e : Ev) (hk : e.kind = .addPub) (h : justifies f e = true) :
    f.kind = .find ∧ f.skip = false ∧ f.admitted = true ∧ f.granted = true ∧ f.name = e.name ∧
    f.publish = e.publish ∧ e.conf ≠ 0 ∧ e.conf = f.conf := by
  simp only [justifies, hk, Bool.and_eq_true, Bool.not_eq_true', beq_iff_eq, bne_iff_ne, ne_eq,
    not_true_eq_false, Bool.or_eq_true, false_or] at h
  obtain ⟨⟨⟨⟨⟨h1, h2⟩, h3⟩, h4⟩, h5⟩, ⟨h6, h7⟩, h8⟩ := h
  exact ⟨h6, h1, h2, h3, h4, h5, h7, h8⟩

/-! ### non-vacuity -/

section
private def cCam : Conf := ⟨asc ['c','a','m'], .static, [], 1, 1⟩
private def cCam2 : Conf := ⟨asc ['c','a','m'], .static, [], 2, 1⟩
private def rq (skip : Bool) (u : Bytes) : AccessReq :=
  ⟨asc ['c','a','m'], [], true, skip, 0, u, [], [], true⟩
private def authAlice : AuthFn := fun q => if q.user = asc ['a'] ∧ q.action = .publish then .ok else .deny

/-- find (admitted) → reload that changes the configuration → attach with the stale configuration fails;
    with the current one it succeeds; without credentials and without SkipAuth it is refused. -/
example :
    (trace authAlice { confs := [cCam] }
      [.find 1 (rq false (asc ['a'])), .reload [cCam2], .addPublisher 1 (rq true []) (some cCam),
       .addPublisher 1 (rq true []) (some cCam2), .addPublisher 2 (rq false []) none]).map (·.2.2) =
    [.found cCam, .reloaded, .changed, .attached 1 (asc ['c','a','m']) true, .authErr false] := by decide +kernel
end

end MtxVerif.C03
