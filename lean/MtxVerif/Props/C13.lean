/-
C13 — Hot reload applies every changed parameter to running components.

  "After any configuration change (file or API), every running server or service whose parameters
   changed is recreated or reloaded so that it runs with the new values, and every component holding a
   reference to a recreated component is recreated too.  Components none of whose parameters changed
   keep running, so their clients stay connected."

Structure.  `Model/C13.lean` is a generic model of reloadConf over an arbitrary table; the table of the
real code is regenerated from core.go on every run (`Gen/C13.lean`).  The generic theorems
(`Lemmas/C13*.lean`, re-exported below) are proved for every table satisfying decidable side
conditions; the side conditions are `decide`d on the generated table here.  Two side conditions are
FALSE on the real code; both are genuine defects (notes/C13.md):

* `uncomparedRead`  — 5 constructor fields of the RTSPS server are not compared by closeRTSPSServer;
* `ptrIdentityCmp`  — `RTSPUDPReadBufferSize` (`*uint`) is compared with `!=`.

The full statements are `AppliesAllFull` / `KeepsUnchangedFull`; the `_partial` theorems hold outside
the two decidable classes; the `_witness` theorems show the full statements fail whenever the
generated table contains such a pair (they stay true, vacuously, once the code is fixed).
-/
import MtxVerif.Lemmas.C13Keep
import MtxVerif.Model.C13_Spec

namespace MtxVerif.C13
open MtxVerif.Gen.C13

/-- whole-history form of the invariant: boot, then any sequence of reloads between well-formed
configurations -/
def WFChain : Conf → List Conf → Prop
  | _, [] => True
  | c, d :: ds => WFConf c d ∧ WFChain d ds

def lastConf : Conf → List Conf → Conf
  | c, [] => c
  | _, d :: ds => lastConf d ds

theorem runHistory_conf (G : Nat → (Nat → Nat) → Bool) (T : List Row) :
    ∀ (cs : List Conf) (s : St), (runHistory G T s cs).conf = lastConf s.conf cs
  | [], _ => rfl
  | c :: cs, s => by rw [runHistory, runHistory_conf G T cs, reload_conf, lastConf]

theorem history_consistent (gaps : List (Nat × Nat)) (G : Nat → (Nat → Nat) → Bool) (T : List Row)
    (hw : wfl T = true) (hcov : covers gaps T = true) (hrefs : refsCovered T = true)
    (hsafe : reloadsSafe T = true) (hG : GuardDet G T) (hGT : GuardTrue G T) :
    ∀ (cs : List Conf) (s : St), Consistent gaps G T s → WFChain s.conf cs →
      Consistent gaps G T (runHistory G T s cs)
  | [], _, hs, _ => hs
  | c :: cs, s, hs, hch =>
    history_consistent gaps G T hw hcov hrefs hsafe hG hGT cs _
      (reload_consistent gaps G T hw hcov hrefs hsafe hG hGT s c hch.1 hs) (by rw [reload_conf]; exact hch.2)

/-- **applies_all** (first half of the property), for any table and any list of tolerated gaps:
after start-up and ANY history of reloads, exactly the components enabled by the current
configuration run; every running component holds, for every field its constructor reads (outside
`gaps`), the CURRENT value; every component pointer it holds points to the CURRENT instance of that
component; no nil component was dereferenced. -/
theorem applies_all_partial (gaps : List (Nat × Nat)) (G : Nat → (Nat → Nat) → Bool) (T : List Row)
    (hw : wfl T = true) (hcov : covers gaps T = true) (hrefs : refsCovered T = true)
    (hsafe : reloadsSafe T = true) (hG : GuardDet G T) (hGT : GuardTrue G T)
    (c0 : Conf) (cs : List Conf) (hch : WFChain c0 cs) :
    let s := runHistory G T (boot G T c0) cs
    let cur := lastConf c0 cs
    s.panicked = false ∧
    ∀ r ∈ T, (s.run r.comp).isSome = G r.comp cur.val ∧
      ∀ i, s.run r.comp = some i →
        (∀ f ∈ r.reads, (r.comp, f) ∉ gaps → i.args f = cur.val f) ∧
        (∀ c ∈ r.refs, i.refs c = (s.run c).map (·.id)) := by
  intro s cur
  have hb := boot_consistent gaps G T hw c0
  have hbc := boot_conf G T c0
  have hs : Consistent gaps G T s :=
    history_consistent gaps G T hw hcov hrefs hsafe hG hGT cs _ hb (by rw [hbc]; exact hch)
  have hconf : s.conf = cur := by
    show (runHistory G T (boot G T c0) cs).conf = _
    rw [runHistory_conf, hbc]
  refine ⟨hs.noPanic, fun r hr => ⟨?_, fun i hi => ⟨?_, hs.refs r hr i hi⟩⟩⟩
  · rw [← hconf]; exact hs.guard r hr
  · intro f hf hg; rw [← hconf]; exact hs.args r hr i hi f hf hg

/-- the full first half: no gaps tolerated -/
def AppliesAllFull (T : List Row) : Prop :=
  ∀ (G : Nat → (Nat → Nat) → Bool), GuardDet G T → GuardTrue G T →
  ∀ (c0 : Conf) (cs : List Conf), WFChain c0 cs →
    let s := runHistory G T (boot G T c0) cs
    let cur := lastConf c0 cs
    ∀ r ∈ T, ∀ i, s.run r.comp = some i → ∀ f ∈ r.reads, i.args f = cur.val f

/-- on a table without gaps the full statement holds -/
theorem applies_all (T : List Row)
    (hw : wfl T = true) (hcov : covers [] T = true) (hrefs : refsCovered T = true)
    (hsafe : reloadsSafe T = true) : AppliesAllFull T := by
  intro G hG hGT c0 cs hch s cur r hr i hi f hf
  exact ((applies_all_partial [] G T hw hcov hrefs hsafe hG hGT c0 cs hch).2 r hr).2 i hi |>.1 f hf
    (by simp)

/-- … and it fails as soon as the table has an actual gap (converse of the side condition) -/
theorem applies_all_witness (T : List Row) (hw : wfl T = true) (g : Nat × Nat)
    (hg : g ∈ actualGaps T) : ¬ AppliesAllFull T := by
  intro hfull
  simp only [actualGaps, List.mem_flatMap, List.mem_map, List.mem_filter, Bool.not_eq_true',
    Bool.or_eq_false_iff] at hg
  obtain ⟨r, hr, f, ⟨hread, hnc, hnr⟩, _⟩ := hg
  obtain ⟨i, hi, hne⟩ := gap_is_stale T hw r hr f hread hnc hnr
  have := hfull allOn (allOn_det T) (allOn_true T) conf0 [confFlip f]
    ⟨wfconf_flip f, trivial⟩ r hr i hi f hread
  exact hne this

/-- the full second half: whenever no parameter of r changed VALUE, r is the same instance -/
def KeepsUnchangedFull (T : List Row) : Prop :=
  ∀ (G : Nat → (Nat → Nat) → Bool), GuardDet G T →
  ∀ (s : St) (new : Conf), Consistent [] G T s → WFConf s.conf new →
  ∀ r ∈ T, (∀ f ∈ paramClosure T r.comp, s.conf.val f = new.val f) →
    ((reload G T s new).run r.comp).map (·.id) = (s.run r.comp).map (·.id)

/-- on a tight table without identity comparisons the full second half holds -/
theorem keeps_unchanged_full (T : List Row) (hw : wfl T = true) (ht : tight T = true)
    (hid : identityCmps T = []) : KeepsUnchangedFull T := by
  intro G hG s new hs _ r hr hsame
  rw [keeps_unchanged [] G T hw ht hG s new hs r hr hsame]
  -- no identity comparison in any row, hence none in any closure
  intro f hf
  obtain ⟨c, hc, _⟩ := List.mem_map.mp hf
  obtain ⟨hcm, hk⟩ := List.mem_filter.mp hc
  obtain ⟨r', hr', hc'⟩ := cmpClosure_sub_rows T r.comp c hcm
  have : (r'.comp, c.field) ∈ identityCmps T :=
    List.mem_flatMap.mpr ⟨r', hr', List.mem_map.mpr ⟨c, List.mem_filter.mpr ⟨hc', hk⟩, rfl⟩⟩
  rw [hid] at this
  cases this

/-- … and it fails as soon as some close predicate compares a pointer by identity -/
theorem keeps_unchanged_witness (T : List Row) (hw : wfl T = true)
    (p : Nat × Nat) (hp : p ∈ identityCmps T) : ¬ KeepsUnchangedFull T := by
  intro hfull
  simp only [identityCmps, List.mem_flatMap, List.mem_map, List.mem_filter, beq_iff_eq] at hp
  obtain ⟨r, hr, c, ⟨hc, hk⟩, _⟩ := hp
  obtain ⟨i, j, hi, hj, hne⟩ := identity_cmp_recreates T hw r hr c hc hk
  have hb := boot_consistent [] allOn T hw conf0
  have hbc := boot_conf allOn T conf0
  have := hfull allOn (allOn_det T) (boot allOn T conf0) (confRealloc c.field) hb
    (by rw [hbc]; exact wfconf_realloc c.field) r hr (by intro f _; rw [hbc]; rfl)
  rw [hi, hj] at this
  simp only [Option.map_some, Option.some.injEq] at this
  exact hne this.symm

/-- a recreated instance never reuses an id (all running ids are below `s.next`, see
`Consistent.ids`): "points to the current instance" cannot be satisfied by a stale one -/
theorem recreated_has_new_id (G : Nat → (Nat → Nat) → Bool) (T : List Row)
    (hw : wfl T = true) (s : St) (new : Conf) (r : Row) (hr : r ∈ T)
    (hclosed : flags s.conf new T r.comp = true) (j : Inst)
    (hj : (reload G T s new).run r.comp = some j) : s.next ≤ j.id := by
  rcases reload_run hw hr hj with ⟨h, _⟩ | ⟨_, _, _, h, _⟩
  · rw [hclosed] at h; cases h
  · exact h

theorem real_wfl : wfl L = true := by decide +kernel
theorem real_order : createOrder = comps rows := by decide +kernel
theorem real_shutdown : allShutdown L = true := by decide +kernel
theorem real_no_unknown : noUnknown L = true := by decide +kernel
theorem real_refs_covered : refsCovered L = true := by decide +kernel
theorem real_reloads_safe : reloadsSafe L = true := by decide +kernel
theorem real_tight : tight L = true := by decide +kernel
theorem real_extractor_checks :
    allConfTokensClassified = true ∧ reloadIsCloseStoreCreate = true ∧ coreLogUsesLogger = true ∧
    staticsAssignedOnlyInitially = true ∧ confStoredOnlyByReload = true := by decide +kernel
/-- every component is closed before the components it points to -/
theorem real_close_order :
    (L.all fun r => r.refs.all fun c =>
      closeOrder.idxOf r.comp < closeOrder.idxOf c) = true := by decide +kernel

/-- guard fields are all compared -/
theorem real_guard_gaps : guardGaps L = [] := by decide +kernel
/-- every uncovered constructor field is one of the five recorded ones -/
theorem real_gaps_known : (actualGaps L).all knownGaps.contains = true := by decide +kernel
theorem real_covers : covers knownGaps L = true :=
  covers_of_gaps real_guard_gaps fun p hp => List.contains_iff_mem.mp (List.all_eq_true.mp real_gaps_known p hp)
/-- every identity comparison is one of the two recorded ones -/
theorem real_identity_known : (identityCmps L).all knownIdentity.contains = true := by decide +kernel

/-- **C13, first half, on the real code** (partial: outside class `uncomparedRead`). -/
theorem c13_applies_all_partial (G : Nat → (Nat → Nat) → Bool) (hG : GuardDet G L)
    (hGT : GuardTrue G L) (c0 : Conf) (cs : List Conf) (hch : WFChain c0 cs) :
    let s := runHistory G L (boot G L c0) cs
    let cur := lastConf c0 cs
    s.panicked = false ∧
    ∀ r ∈ L, (s.run r.comp).isSome = G r.comp cur.val ∧
      ∀ i, s.run r.comp = some i →
        (∀ f ∈ r.reads, (r.comp, f) ∉ knownGaps → i.args f = cur.val f) ∧
        (∀ c ∈ r.refs, i.refs c = (s.run c).map (·.id)) :=
  applies_all_partial knownGaps G L real_wfl real_covers real_refs_covered real_reloads_safe hG hGT
    c0 cs hch

/-- the full first half is false on the real code for as long as the generated table has a gap -/
theorem c13_applies_all_witness (g : Nat × Nat) (hg : g ∈ actualGaps L) : ¬ AppliesAllFull L :=
  applies_all_witness L real_wfl g hg

/-- once the gaps are closed in core.go the full first half holds (the `_fixed` variant) -/
theorem c13_applies_all_fixed (h : actualGaps L = []) : AppliesAllFull L :=
  applies_all L real_wfl (covers_of_gaps real_guard_gaps (by rw [h]; exact fun _ h => nomatch h))
    real_refs_covered real_reloads_safe

/-- **C13, second half, on the real code** (partial: outside class `ptrIdentityCmp`): a component none
of whose parameters changed value — and whose close closure saw no re-allocated pointer that it
compares by identity — is the same instance after the reload. -/
theorem c13_keeps_unchanged_partial (G : Nat → (Nat → Nat) → Bool) (hG : GuardDet G L)
    (s : St) (new : Conf) (hs : Consistent knownGaps G L s) (r : Row) (hr : r ∈ L)
    (hsame : ∀ f ∈ paramClosure L r.comp, s.conf.val f = new.val f)
    (hid : ∀ f ∈ identityClosure L r.comp, s.conf.addr f = new.addr f) :
    (reload G L s new).run r.comp = s.run r.comp :=
  keeps_unchanged knownGaps G L real_wfl real_tight hG s new hs r hr hsame hid

theorem c13_keeps_unchanged_witness (p : Nat × Nat) (hp : p ∈ identityCmps L) :
    ¬ KeepsUnchangedFull L :=
  keeps_unchanged_witness L real_wfl p hp

theorem c13_keeps_unchanged_fixed (h : identityCmps L = []) : KeepsUnchangedFull L :=
  keeps_unchanged_full L real_wfl real_tight h

/-! ## non-vacuity -/

/-- the hypotheses of the main theorems are satisfiable: the all-enabled guard, a one-step history -/
example : GuardDet allOn L ∧ GuardTrue allOn L ∧ WFChain conf0 [confFlip F_ReadTimeout] :=
  ⟨allOn_det L, allOn_true L, wfconf_flip _, trivial⟩

/-- the model really recreates: flipping ReadTimeout raises every flag except the logger's and the record cleaner's -/
example : (comps rows).filter (fun k => !flags conf0 (confFlip F_ReadTimeout) L k) = [K_logger, K_recordCleaner] := by
  decide +kernel

/-- flipping MoQQUICAddress recreates the MoQ server and the API server that points to it -/
example : (comps rows).filter (flags conf0 (confFlip F_MoQQUICAddress) L) = [K_moqServer, K_api] := by
  decide +kernel

end MtxVerif.C13
