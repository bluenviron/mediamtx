/-
C28 — playback endpoints survive any recording directory content.  Property theorems.

The property ("answer with data or an error, never crash the server process") for the MediaMTX-owned
parsers is `SafeRes`: no panic, no hang, and every buffer the parser allocates is covered by bytes that really
are in the file.  It is

* proved at full strength for the code with the proposed fix (`parseSegment_fixed_total`, `muxWalk_fixed_total`),
  for every file content and every behaviour of the third-party decoders (`∀ lib`);
* FALSE for the code as it is: `parse_total_full` / `mux_total_full` are refuted by concrete witnesses
  (`parse_total_witness_div`, `parse_total_witness_alloc`, `mux_total_witness`);
* proved for the code as it is under the explicit side conditions that delimit the three defect classes
  (`parseSegment_cur_partial`, `muxWalk_cur_partial`); and the code as it is never hangs
  (`parseSegment_cur_no_hang`).
-/
import MtxVerif.Model.C28

namespace MtxVerif.C28

/-- peels one early exit off a parser: the property holds of what the exit returns, and of the rest when the
exit is not taken -/
theorem early_exit {γ : Type} (S : γ → Prop) {p : Prop} [Decidable p] {x y : γ} (hx : S x) (hy : ¬ p → S y) :
    S (if p then x else y) := by
  by_cases h : p
  · rw [if_pos h]; exact hx
  · rw [if_neg h]; exact hy h

/-- an allocation record that is harmless: it is covered by the file -/
def Good (c : Cfg) (n : Nat) (a : Alloc) : Prop := a.rem ≤ n ∧ (c.guardSz = true → a.req ≤ a.rem)

def AllGood (c : Cfg) (n : Nat) (al : List Alloc) : Prop := ∀ a ∈ al, Good c n a

/-- data satisfying `P` or an error, no panic and no hang, and only harmless allocations -/
def Safe {α : Type} (c : Cfg) (n : Nat) (P : α → Prop) (r : Res α) : Prop :=
  AllGood c n r.2 ∧ match r.1 with
    | .ok a => P a
    | .err _ => True
    | .panicDiv => False
    | .hang => False

/-- a step that either returns (`.error r`, with `r` safe) or goes on in a state satisfying `Q` -/
def StepSafe {β : Type} (c : Cfg) (n : Nat) (Q : β → Prop) : Except (Res Int64) β → Prop
  | .error r => Safe c n (fun _ => True) r
  | .ok b => Q b

section
variable {α β : Type} {c : Cfg} {n : Nat} {P : α → Prop} {Q : β → Prop} {al : List Alloc}

theorem allGood_nil (c : Cfg) (n : Nat) : AllGood c n [] := List.forall_mem_nil _

theorem allGood_app {a b : List Alloc} (ha : AllGood c n a) (hb : AllGood c n b) : AllGood c n (a ++ b) :=
  List.forall_mem_append.mpr ⟨ha, hb⟩

theorem allGood_one {a : Alloc} (ha : Good c n a) : AllGood c n [a] := List.forall_mem_singleton.mpr ha

theorem Safe.err (e : Err) (hal : AllGood c n al) : Safe c n P (.err e, al) := ⟨hal, trivial⟩

theorem Safe.ok {a : α} (hal : AllGood c n al) (ha : P a) : Safe c n P (.ok a, al) := ⟨hal, ha⟩

theorem Safe.no_panic {r : Res α} (h : Safe c n P r) : r.1 ≠ .panicDiv :=
  fun e => by have := h.2; rwa [e] at this

theorem Safe.no_hang {r : Res α} (h : Safe c n P r) : r.1 ≠ .hang :=
  fun e => by have := h.2; rwa [e] at this

/-- `Safe` is the property once the allocations are known to fit: by the size guard, or by assumption -/
theorem Safe.safeRes {r : Res α} (h : Safe c n P r) (hfit : c.guardSz = true ∨ Fits r.2) : SafeRes n r := by
  refine ⟨h.no_panic, h.no_hang, fun a ha => ⟨?_, (h.1 a ha).1⟩⟩
  rcases hfit with hg | hf
  · exact (h.1 a ha).2 hg
  · exact hf a ha

theorem StepSafe.err (e : Err) (hal : AllGood c n al) : StepSafe c n Q (.error (.err e, al)) :=
  (Safe.err e hal : Safe c n (fun _ => True) _)

theorem StepSafe.done (v : Int64) (hal : AllGood c n al) : StepSafe c n Q (.error (.ok v, al)) :=
  (Safe.ok hal trivial : Safe c n (fun _ => True) _)

end

theorem tag_eq {a b : Bytes} (h : ¬ ((a != b) = true)) : a = b := by
  simpa using h

theorem moofLoop_no_hang (f : Bytes) : ∀ (fuel pos : Nat) (last : Option Nat),
    f.length < fuel + pos → 1 ≤ fuel → moofLoop f fuel pos last ≠ none := by
  intro fuel
  induction fuel with
  | zero => intro _ _ _ h; omega
  | succ k ih =>
    intro pos last hlen _
    simp only [moofLoop]
    refine early_exit (· ≠ none) nofun fun _ => ?_
    refine early_exit (· ≠ none) nofun fun h2 => ?_
    refine early_exit (· ≠ none) nofun fun _ => ?_
    refine early_exit (· ≠ none) nofun fun h4 => ?_
    -- a moof box of size 0 would have to carry the tag `mdat` in the place of its own
    have hpos : rd32 f pos ≠ 0 := by
      intro h0
      rw [h0, Nat.add_zero] at h4
      exact absurd ((tag_eq h2).symm.trans (tag_eq h4)) (by decide)
    exact ih _ _ (by omega) (by omega)

theorem readBox_safe {c : Cfg} {f : Bytes} {pos : Nat} {tag : Bytes} {e : Err} {al : List Alloc}
    (hal : AllGood c f.length al) {x} (hx : readBox c f pos tag e al = x) :
    StepSafe c f.length (fun q => pos + 8 ≤ q.2.1 ∧ AllGood c f.length q.2.2) x := by
  subst hx
  simp only [readBox]
  iterate 2 refine early_exit _ (.err _ hal) fun _ => ?_
  generalize sub32 (rd32 f pos) 8 = req
  refine early_exit _ (.err _ hal) fun hg => ?_
  -- the record that is added: with the size guard on, the request is known to fit
  have hal' : AllGood c f.length (al ++ [⟨req, f.length - (pos + 8)⟩]) := by
    refine allGood_app hal (allGood_one ⟨Nat.sub_le _ _, fun hgs => ?_⟩)
    simp only [hgs, Bool.true_and, Bool.or_eq_true, decide_eq_true_eq] at hg
    show req ≤ f.length - (pos + 8)
    omega
  exact early_exit _ (.err _ hal') fun _ => ⟨Nat.le_add_right _ _, hal'⟩

theorem trafStep_safe {c : Cfg} {lib : Lib} {f : Bytes} {tracks : List Track} {pos : Nat} {mx : Int64}
    {al : List Alloc} (htr : ∀ t ∈ tracks, t.ts ≠ 0) (hal : AllGood c f.length al) {x}
    (hx : trafStep c lib f tracks pos mx al = x) :
    StepSafe c f.length (fun q => pos + 8 ≤ f.length ∧ pos + 32 ≤ q.1 ∧ AllGood c f.length q.2.2) x := by
  subst hx
  simp only [trafStep]
  refine early_exit _ (.err _ hal) fun _ => ?_
  refine early_exit _ (.done _ hal) fun _ => ?_
  refine early_exit _ (.err _ hal) fun _ => ?_
  split
  · rename_i h1; exact readBox_safe hal h1
  rename_i p1 pos1 al1 h1
  obtain ⟨l1, g1⟩ : pos + 8 + 8 ≤ pos1 ∧ AllGood c f.length al1 := readBox_safe hal h1
  split
  · exact .err _ g1
  split
  · exact .err _ g1
  rename_i tr hft
  split
  · rename_i h2; exact readBox_safe g1 h2
  rename_i p2 pos2 al2 h2
  obtain ⟨l2, g2⟩ : pos1 + 8 ≤ pos2 ∧ AllGood c f.length al2 := readBox_safe g1 h2
  split
  · exact .err _ g2
  split
  · rename_i h3; exact readBox_safe g2 h3
  rename_i p3 pos3 al3 h3
  obtain ⟨l3, g3⟩ : pos2 + 8 ≤ pos3 ∧ AllGood c f.length al3 := readBox_safe g2 h3
  split
  · exact .err _ g3
  split
  · rename_i hz
    exact absurd hz (htr tr (List.mem_of_find?_eq_some hft))
  · exact ⟨by omega, by show pos + 32 ≤ pos3; omega, g3⟩

/-- "foreach traf": never divides by zero (given the library's TimeScale ≠ 0 contract), never hangs, and
every allocation it adds is `Good`. -/
theorem trafLoop_ok (c : Cfg) (lib : Lib) (f : Bytes) (tracks : List Track) (htr : ∀ t ∈ tracks, t.ts ≠ 0) :
    ∀ (fuel pos : Nat) (mx : Int64) (al : List Alloc), f.length < fuel + pos → 1 ≤ fuel →
      AllGood c f.length al → Safe c f.length (fun _ => True) (trafLoop c lib f tracks fuel pos mx al) := by
  intro fuel
  induction fuel with
  | zero => intro _ _ _ _ h; omega
  | succ k ih =>
    intro pos mx al hlen _ hal
    rw [trafLoop]
    split
    · rename_i r hr; exact trafStep_safe htr hal hr
    · rename_i pos' mx' al' hs
      obtain ⟨l1, l2, g⟩ : pos + 8 ≤ f.length ∧ pos + 32 ≤ pos' ∧ AllGood c f.length al' :=
        trafStep_safe htr hal hs
      exact ih pos' mx' al' (by omega) (by omega) g

/-! #### segmentFMP4ReadDurationFromParts -/

theorem durFromParts_ok (c : Cfg) (lib : Lib) (f : Bytes) (tracks : List Track) (htr : ∀ t ∈ tracks, t.ts ≠ 0) :
    Safe c f.length (fun _ => True) (durFromParts c lib f tracks) := by
  have nil := allGood_nil c f.length
  simp only [durFromParts]
  iterate 4 refine early_exit _ (.err _ nil) fun _ => ?_
  split
  · rename_i hm
    exact absurd hm (moofLoop_no_hang f _ _ _ (by omega) (by omega))
  · exact .err _ nil
  iterate 2 refine early_exit _ (.err _ nil) fun _ => ?_
  exact trafLoop_ok c lib f tracks htr _ _ _ _ (by omega) (by omega) nil

/-! #### segmentFMP4ReadHeader -/

/-- the mvhd the header parser consults has a non-zero time scale (the side condition of finding
`mvhd-timescale-zero`) -/
def TimescaleNZ (lib : Lib) (f : Bytes) : Prop :=
  ∀ dur ts, lib.mvhd (f.drop (rd32 f 0 + 16)) (sub32 (rd32 f (rd32 f 0)) 8) = .ok (dur, ts) → ts ≠ 0

/-- the header parser is safe, and the tracks of a successful parse come from `Init.Unmarshal`, hence
have TimeScale ≠ 0 -/
theorem readHeader_ok (c : Cfg) (lib : Lib) (hlib : LibOK lib) (f : Bytes)
    (hts : c.guardTs = true ∨ TimescaleNZ lib f) :
    Safe c f.length (fun p => ∀ t ∈ p.1, t.ts ≠ 0) (readHeader c lib f) := by
  have nil := allGood_nil c f.length
  simp only [readHeader]
  iterate 4 refine early_exit _ (.err _ nil) fun _ => ?_
  split
  · exact .err _ nil
  · exact .err _ nil
  rename_i dur ts hm
  split
  · rename_i hz
    split
    · exact .err _ nil
    · rename_i hg
      rcases hts with hts | hts
      · exact absurd hts hg
      · exact absurd hz (hts dur ts hm)
  generalize headerReq c (rd32 f 0) (rd32 f (rd32 f 0)) = req
  split
  · exact .err _ nil
  rename_i hgd
  have one : AllGood c f.length [⟨req, f.length⟩] := by
    refine allGood_one ⟨Nat.le_refl _, fun hgs => ?_⟩
    simp only [hgs, Bool.true_and, decide_eq_true_eq] at hgd
    show req ≤ f.length
    omega
  split
  · exact .err _ one
  split
  · exact .err _ one
  · exact .err _ one
  · rename_i tr hinit
    exact .ok one (hlib _ _ hinit)

/-! #### parseSegment: the function that runs in the parseSegments goroutines -/

theorem parseSegment_ok (c : Cfg) (lib : Lib) (hlib : LibOK lib) (f : Bytes)
    (hts : c.guardTs = true ∨ TimescaleNZ lib f) :
    Safe c f.length (fun _ => True) (parseSegment c lib f) := by
  have H := readHeader_ok c lib hlib f hts
  unfold parseSegment
  -- both matches only pass the outcome on and append the allocations
  generalize readHeader c lib f = x at H ⊢
  obtain ⟨⟨tr, d⟩ | _ | _ | _, al⟩ := x
  · have D := durFromParts_ok c lib f tr H.2
    dsimp only
    split
    · generalize durFromParts c lib f tr = y at D ⊢
      obtain ⟨_ | _ | _ | _, al2⟩ := y
      · exact .ok (allGood_app H.1 D.1) trivial
      · exact .err _ (allGood_app H.1 D.1)
      · exact D.2.elim
      · exact D.2.elim
    · exact .ok H.1 trivial
  · exact .err _ H.1
  · exact H.2.elim
  · exact H.2.elim

/-- **C28 at full strength, for the code with the proposed fix**: whatever the file contains and whatever
the third-party decoders answer (as long as returned tracks have TimeScale ≠ 0), `parseSegment` neither
panics nor hangs and allocates no buffer that the file does not cover. -/
theorem parseSegment_fixed_total (lib : Lib) (hlib : LibOK lib) (f : Bytes) :
    SafeRes f.length (parseSegment fixed lib f) :=
  (parseSegment_ok fixed lib hlib f (.inl rfl)).safeRes (.inl rfl)

/-- The same statement for the code as it is — FALSE, see the witnesses. -/
def parse_total_full : Prop := ∀ (lib : Lib), LibOK lib → ∀ f : Bytes, SafeRes f.length (parseSegment cur lib f)

/-- 16-byte file `[0,0,0,8,"ftyp",0,0,0,8,"moov"]`; decoder answering "duration 0, timescale 0". -/
def witnessFile : Bytes := [0, 0, 0, 8] ++ tFtyp ++ [0, 0, 0, 8] ++ tMoov

def witnessLibDiv : Lib :=
  { mvhd := fun _ _ => .ok (0, 0), tfhd := fun _ => none, tfdt := fun _ => none, trun := fun _ => none,
    init := fun _ => .other }

theorem parse_total_witness_div : ¬ parse_total_full := by
  intro h
  have := (h witnessLibDiv (by intro b tr hb; cases hb) witnessFile).1
  exact this (by decide +kernel)

/-- file: ftyp(8) moov(8) moof(16: moof+mfhd hdr) … with a tfhd whose size field is 4: the code requests
`uint32(4-8) = 4294967292` bytes for a 64-byte file. -/
def witnessFileAlloc : Bytes :=
  [0, 0, 0, 8] ++ tFtyp ++ [0, 0, 0, 8] ++ tMoov ++
  [0, 0, 0, 40] ++ tMoof ++ [0, 0, 0, 16] ++ tMfhd ++ [0, 0, 0, 0, 0, 0, 0, 0] ++
  [0, 0, 0, 16] ++ tTraf ++ [0, 0, 0, 4] ++ tTfhd ++
  [0, 0, 0, 8] ++ tMdat

def witnessLibAlloc : Lib :=
  { mvhd := fun _ _ => .ok (0, 1000), tfhd := fun _ => none, tfdt := fun _ => none, trun := fun _ => none,
    init := fun _ => .ok [⟨1, 90000⟩] }

theorem witnessAlloc_value :
    (parseSegment cur witnessLibAlloc witnessFileAlloc) = (.err .eof, [⟨16, 64⟩, ⟨4294967292, 8⟩]) := by decide +kernel

theorem parse_total_witness_alloc : ¬ parse_total_full := by
  intro h
  have := (h witnessLibAlloc (by intro b tr hb; simp [witnessLibAlloc] at hb; subst hb; simp) witnessFileAlloc).2.2
  rw [witnessAlloc_value] at this
  have := (this ⟨4294967292, 8⟩ (by simp)).1
  simp at this

/-- **C28 for the code as it is, outside the two defect classes**: if the mvhd time scale is not zero
(`mvhd-timescale-zero`) and every declared size the parser allocates for is covered by the file
(`declared-size-alloc`), the property holds. -/
theorem parseSegment_cur_partial (lib : Lib) (hlib : LibOK lib) (f : Bytes)
    (hts : TimescaleNZ lib f) (hfit : Fits (parseSegment cur lib f).2) :
    SafeRes f.length (parseSegment cur lib f) :=
  (parseSegment_ok cur lib hlib f (.inr hts)).safeRes (.inr hfit)

/-- The code as it is never hangs, whatever the file: both loops consume the file. -/
theorem parseSegment_cur_no_hang (lib : Lib) (hlib : LibOK lib) (f : Bytes) (hts : TimescaleNZ lib f) :
    (parseSegment cur lib f).1 ≠ .hang :=
  (parseSegment_ok cur lib hlib f (.inr hts)).no_hang

/-- …and it panics only by the division: if the time scale is not zero there is no panic at all. -/
theorem parseSegment_cur_no_panic (lib : Lib) (hlib : LibOK lib) (f : Bytes) (hts : TimescaleNZ lib f) :
    (parseSegment cur lib f).1 ≠ .panicDiv :=
  (parseSegment_ok cur lib hlib f (.inr hts)).no_panic

/-- the duration parser alone (reached with the tracks of the first segment) -/
theorem durFromParts_fixed_total (lib : Lib) (f : Bytes) (tracks : List Track) (htr : ∀ t ∈ tracks, t.ts ≠ 0) :
    SafeRes f.length (durFromParts fixed lib f tracks) :=
  (durFromParts_ok fixed lib f tracks htr).safeRes (.inl rfl)

/-! #### segmentFMP4MuxParts callback (GET /get) -/

/-- order condition (the side condition of finding `mux-nil-box-order`): no readable tfdt before the first
readable tfhd, no readable trun before the first readable tfdt. -/
def Ordered : Bool → Bool → List MEv → Bool
  | _, _, [] => true
  | h, d, .other :: r => Ordered h d r
  | _, d, .tfhd ok :: r => if ok then Ordered true d r else true
  | h, _, .tfdt ok tf :: r => if !ok then true else if !h then false else if !tf then true else Ordered h true r
  | h, d, .trun ok :: r => if !ok then true else if !d then false else Ordered h d r

/-- The callback dereferences nil exactly when it is unguarded and the events are out of order:
`Ordered` follows `muxWalk` branch by branch and is `false` where the unguarded walk panics. -/
theorem muxWalk_noPanic_iff (g : Bool) (evs : List MEv) (h d : Bool) :
    muxWalk g h d evs = .noPanic ↔ g = true ∨ Ordered h d evs = true := by
  fun_induction muxWalk g h d evs <;> simp_all [Ordered]

theorem ordered_started (evs : List MEv) : Ordered true true evs = true := by
  induction evs with
  | nil => rfl
  | cons e r ih => cases e <;> simp [Ordered, ih]

/-- with the proposed nil checks the callback cannot dereference nil, for every event sequence the library
may deliver -/
theorem muxWalk_fixed_total : ∀ (evs : List MEv) (h d : Bool), muxWalk true h d evs = .noPanic :=
  fun evs h d => (muxWalk_noPanic_iff true evs h d).mpr (.inl rfl)

def mux_total_full : Prop := ∀ evs : List MEv, muxWalk false false false evs = .noPanic

/-- a file whose first fragment-level box is a `tfdt` (or a `trun`) -/
theorem mux_total_witness : ¬ mux_total_full := by
  intro h
  have := h [.tfdt true false]
  revert this
  decide

theorem mux_total_witness_trun : muxWalk false false false [.other, .tfhd true, .trun true] = .panicNil := by decide

/-- once a tfhd and a tfdt have been seen the callback cannot dereference nil any more -/
theorem muxWalk_cur_started : ∀ (evs : List MEv), muxWalk false true true evs = .noPanic :=
  fun evs => (muxWalk_noPanic_iff false evs true true).mpr (.inr (ordered_started evs))

theorem muxWalk_cur_partial : ∀ (evs : List MEv) (h d : Bool), Ordered h d evs = true →
    muxWalk false h d evs = .noPanic :=
  fun evs h d ho => (muxWalk_noPanic_iff false evs h d).mpr (.inr ho)

/-- the parts the recorder writes (moof, mfhd, then per track traf, tfhd, tfdt, trun; then mdat) are ordered -/
example : Ordered false false [.other, .other, .other, .tfhd true, .tfdt true true, .trun true, .other,
    .tfhd true, .tfdt true true, .trun true, .other] = true := by decide +kernel

/-- the side conditions of the partial theorem are satisfiable, and the parse then succeeds -/
example : (parseSegment cur witnessLibAlloc
    ([0, 0, 0, 8] ++ tFtyp ++ [0, 0, 0, 8] ++ tMoov)).1 = .err .moof := by decide +kernel

example : Fits (parseSegment cur witnessLibAlloc ([0, 0, 0, 8] ++ tFtyp ++ [0, 0, 0, 8] ++ tMoov)).2 := by decide +kernel

/-- current and fixed code agree on a well-formed part (one traf, sizes consistent) -/
def goodFile : Bytes :=
  [0, 0, 0, 8] ++ tFtyp ++ [0, 0, 0, 8] ++ tMoov ++
  [0, 0, 0, 60] ++ tMoof ++ [0, 0, 0, 16] ++ tMfhd ++ [0, 0, 0, 0, 0, 0, 0, 0] ++
  [0, 0, 0, 36] ++ tTraf ++ [0, 0, 0, 9] ++ tTfhd ++ [7] ++ [0, 0, 0, 9] ++ tTfdt ++ [8] ++ [0, 0, 0, 10] ++ tTrun ++ [1, 2] ++
  [0, 0, 0, 8] ++ tMdat

def goodLib : Lib :=
  { mvhd := fun _ _ => .ok (0, 1000), tfhd := fun _ => some 1, tfdt := fun b => some (b.length * 90000),
    trun := fun b => some (b.length * 45000), init := fun _ => .ok [⟨1, 90000⟩] }

example : (parseSegment cur goodLib goodFile).1 = .ok ([⟨1, 90000⟩], 2000000000) := by decide +kernel
example : parseSegment cur goodLib goodFile = parseSegment fixed goodLib goodFile := by decide +kernel

end MtxVerif.C28
