/-
C24 — timestamp scaling is exact.  Property theorems.

The arithmetic is in Lemmas/C24Arith.lean (`exact_split`, `muldiv_exact`, the guards).  Here: the tie to the
code — every generated copy (Gen/C24.lean, regenerated from /repo at each check) is the canonical body, so a
mutated copy breaks `copies3_canonical` / `copies2_canonical` — then the full statement over the property's
domain (`muldiv_full`), its refutation by a decided witness (`muldiv_full_witness`, finding F-C24, class
`overflowRegion`) and the partial statement.
-/
import MtxVerif.Gen.C24
import MtxVerif.Lemmas.C24Arith

namespace MtxVerif.C24
open Gen

/-! ### tie to the code: every generated copy is the canonical body

`Gen.X` is the translation of copy `X`; `Gen.X_usesFix` says whether its remainder term goes through the
repaired 128-bit helper. -/

theorem canon_exact (b : Bool) (v m d : Int) (hd : d ≠ 0)
    (hg : b = false → InI64 (Int.tmod v d * m)) (hr : InI64 (exact v m d)) :
    canon b v m d = some (exact v m d) := by
  cases b
  · exact muldiv_exact v m d hd (hg rfl) hr
  · exact muldivFixed_exact v m d hd hr

/-- three-argument copy `f` = canonical body -/
macro "c24_copy3 " f:ident fx:ident : tactic =>
  `(tactic| (intro v m d
             simp only [$f:ident, $fx:ident, canon, muldiv, muldivFixed, I64.div, I64.mod, I64.mul, I64.add,
               I64.mulDivTrunc128, bind, Option.bind]
             by_cases h : d = 0 <;> simp [h]))

/-- two-argument wrapper `f` written out (playback) -/
macro "c24_copy2 " f:ident fx:ident : tactic =>
  `(tactic| (intro x r
             simp only [$f:ident, $fx:ident, canon, muldiv, muldivFixed, I64.div, I64.mod, I64.mul, I64.add,
               I64.mulDivTrunc128, I64.ofU32, nsPerSec, bind, Option.bind]
             by_cases h : r = 0 <;> simp [h]))

/-- two-argument wrapper `f` calling the three-argument copy with lemma `e` -/
macro "c24_wrap " f:ident fx:ident gx:ident e:ident : tactic =>
  `(tactic| (intro x r
             simp only [$f:ident, $fx:ident, $gx:ident, $e:ident, nsPerSec, bind, Option.bind]
             try (cases canon _ _ _ _ <;> rfl)))

/-- The canonical body is the statement sequence of `multiplyAndDivide` as the translator renders it (`b`: the
remainder term goes through the 128-bit helper).  Every generated copy unfolds to an instance of the right
side (a wrapper through the copy it calls), so each tie below is an instance of this lemma, and fails to
check as soon as a copy's arithmetic differs. -/
theorem canon_eq_steps (b : Bool) (v m d : Int) :
    canon b v m d =
      (do let secs ← I64.div v d
          let dec ← I64.mod v d
          let q ← bif b then I64.mulDivTrunc128 dec m d else I64.div (I64.mul dec m) d
          pure (I64.add (I64.mul secs m) q)) := by
  cases b <;> by_cases h : d = 0 <;>
    simp [canon, muldiv, muldivFixed, I64.div, I64.mod, I64.mul, I64.add, I64.mulDivTrunc128, h]

/-- Every three-argument copy the translator found (whatever their number) is the canonical body
(the repaired one iff it is flagged as using the 128-bit helper). -/
theorem copies3_canonical :
    ∀ c ∈ Gen.copies3, ∀ v m d : Int, c.2.2 v m d = canon c.2.1 v m d := by
  simp only [Gen.copies3, List.forall_mem_cons, List.not_mem_nil, false_imp_iff, implies_true, and_true]
  and_intros
  all_goals (intro v m d; symm; exact canon_eq_steps _ v m d)

/-- Hence every three-argument copy is exact under the guard (no guard for a repaired copy). -/
theorem copies3_exact :
    ∀ c ∈ Gen.copies3, ∀ v m d : Int, d ≠ 0 → (c.2.1 = false → InI64 (Int.tmod v d * m)) →
      InI64 (exact v m d) → c.2.2 v m d = some (exact v m d) := by
  intro c hc v m d hd hg hr
  rw [copies3_canonical c hc]
  exact canon_exact _ v m d hd hg hr

/-- Every two-argument wrapper the translator found instantiates the canonical body as its name says:
`durationGoToMp4(v, timeScale)`, `durationToTimestamp(d, rate)` at `(x, rate, 10^9)`;
`durationMp4ToGo(v, timeScale)`, `timestampToDuration(t, rate)` at `(x, 10^9, rate)` (panic for rate 0).
The playback pair is written out, the others call a three-argument copy. -/
theorem copies2_canonical :
    ∀ c ∈ Gen.copies2, ∀ sh, shapeOf c.2.1 = some sh → ∀ x r : Int,
      c.2.2.2 x r = canon c.2.2.1 (sh.args x r).1 (sh.args x r).2.1 (sh.args x r).2.2 := by
  simp only [Gen.copies2, List.forall_mem_cons, shapeOf, beq_iff_eq, String.reduceEq, ↓reduceIte,
    Option.some.injEq, forall_eq', Shape.args, List.not_mem_nil, false_imp_iff, implies_true, and_true]
  and_intros
  all_goals (intro x r; symm; exact canon_eq_steps _ _ _ _)

/-- Hence every nanosecond wrapper is exact for every rate in `1 … 2^32` and every `x` with a
representable result — no overflow class at all for these. -/
theorem copies2_exact :
    ∀ c ∈ Gen.copies2, ∀ sh, shapeOf c.2.1 = some sh → ∀ x r : Int, rateOK r = true →
      InI64 (exact (sh.args x r).1 (sh.args x r).2.1 (sh.args x r).2.2) →
      c.2.2.2 x r = some (exact (sh.args x r).1 (sh.args x r).2.1 (sh.args x r).2.2) := by
  intro c hc sh hsh x r hr hx
  rw [copies2_canonical c hc sh hsh]
  simp only [rateOK, decide_eq_true_eq] at hr
  cases sh with
  | rateIsD =>
    simp only [Shape.args] at *
    exact canon_exact _ _ _ _ (by omega) (fun _ => guard_of_rates x (M := 2 ^ 31) (by decide) hr (by decide)) hx
  | rateIsM =>
    simp only [Shape.args] at *
    exact canon_exact _ _ _ _ (by decide) (fun _ => guard_of_rates x (D := 2 ^ 31) hr (by decide) (by decide)) hx

/-- `recorder.writeDuration`: `mvhd.DurationV0 = uint32(d / time.Millisecond)` is the exact conversion of `d`
nanoseconds into the movie time scale 1000 (the value `fmp4.Init.Marshal` writes; the harness reads the real
one back), truncated toward zero, then narrowed to 32 bits. -/
theorem recorder_writeDuration_mvhdDuration_eq (d : Int) (hd : InI64 d) :
    recorder_writeDuration_mvhdDuration d = some (exact d 1000 nsPerSec % 2 ^ 32) := by
  have h1 : exact d 1000 nsPerSec = Int.tdiv d 1000000 :=
    Int.mul_tdiv_mul_of_pos_left d 1000000 (by decide : (0 : Int) < 1000)
  simp [recorder_writeDuration_mvhdDuration, I64.div, I64.toU32, h1,
    wrap64_of_in (tdiv_in hd (by decide : (0 : Int) ≤ 1000000))]

/-- hence, when the exact result is representable in the 32-bit field, the field holds exactly it -/
theorem recorder_writeDuration_exact (d : Int) (hd : InI64 d)
    (hr : 0 ≤ exact d 1000 nsPerSec ∧ exact d 1000 nsPerSec < 2 ^ 32) :
    recorder_writeDuration_mvhdDuration d = some (exact d 1000 nsPerSec) := by
  rw [recorder_writeDuration_mvhdDuration_eq d hd, Int.emod_eq_of_lt hr.1 hr.2]

/-- `playback.segmentFMP4ReadHeader`: `time.Duration(mvhd.DurationV0) * time.Second / time.Duration(mvhd.Timescale)`
is the exact conversion for all 32-bit field values (the product is < 2^62: no wrap). -/
theorem playback_readHeader_duration_eq (dur ts : Int) (hd : 0 ≤ dur ∧ dur < 2 ^ 32) (ht : 1 ≤ ts ∧ ts < 2 ^ 32) :
    playback_readHeader_duration dur ts = some (exact dur nsPerSec ts) := by
  have hp : InI64 (dur * 1000000000) := by unfold InI64; omega
  have hne : ts ≠ 0 := by omega
  simp [playback_readHeader_duration, I64.div, I64.mul, I64.ofU32, hne, exact, nsPerSec,
    wrap64_of_in hp, wrap64_of_in (tdiv_in hp (by omega : 0 ≤ ts))]

/-- Every constant rate argument at every call site is in `1 … 2^31` (decided over the generated table). -/
theorem sites_const_small : ∀ s ∈ Gen.sites, s.constSmall = true := by decide

/-- **Call sites with a constant rate are exact over the whole property domain**: for every call site in
the repository where at least one rate argument is a syntactic constant, every `v`, every rate pair in
`1 … 2^32` that the site can pass, and representable exact result — the canonical body is exact. -/
theorem const_sites_exact : ∀ s ∈ Gen.sites, s.oneConst = true →
    ∀ v m d : Int, s.matches m d = true → rateOK m = true → rateOK d = true → InI64 (exact v m d) →
      muldiv v m d = some (exact v m d) := by
  intro s hs hone v m d hmatch hm hd hx
  have hsmall := sites_const_small s hs
  simp only [rateOK, decide_eq_true_eq] at hm hd
  refine muldiv_exact v m d (by omega) ?_ hx
  obtain ⟨_, _, _, sm, sd⟩ := s
  simp only [Site.oneConst, Site.matches, Site.constSmall, Bool.and_eq_true] at hone hmatch hsmall
  cases sm with
  | some c =>
    simp only [beq_iff_eq, decide_eq_true_eq] at hmatch hsmall
    exact hmatch.1 ▸ guard_of_rates v hsmall.1 hd (by decide)
  | none =>
    cases sd with
    | some c =>
      simp only [beq_iff_eq, decide_eq_true_eq] at hmatch hsmall
      exact hmatch.2 ▸ guard_of_rates v hm hsmall.2 (by decide)
    | none => simp at hone

/-- The property as written: for all 64-bit `v` and all rates in `1 … 2^32`, if the exact result is
representable the helper returns it. -/
def muldiv_full : Prop :=
  ∀ v m d : Int, InI64 v → rateOK m = true → rateOK d = true → InI64 (exact v m d) →
    muldiv v m d = some (exact v m d)

/-- The property as written, for the repaired body. -/
def muldivFixed_full : Prop :=
  ∀ v m d : Int, InI64 v → rateOK m = true → rateOK d = true → InI64 (exact v m d) →
    muldivFixed v m d = some (exact v m d)

/-- Partial statement: the full statement holds outside the decidable class `overflowRegion`. -/
theorem muldiv_partial :
    ∀ v m d : Int, InI64 v → rateOK m = true → rateOK d = true → InI64 (exact v m d) →
      overflowRegion v m d = false → muldiv v m d = some (exact v m d) := by
  intro v m d _ _ hd hx hg
  simp only [rateOK, decide_eq_true_eq] at hd
  exact muldiv_exact v m d (by omega) (by simpa [overflowRegion] using hg) hx

/-- **Finding F-C24**: the full statement is false for the code as written.  Witness inside the
property's domain: `v = 2^32 - 1`, `m = d = 2^32` — exact result `2^32 - 1`, the code returns `-1`. -/
theorem muldiv_full_witness : ¬ muldiv_full := by
  intro h
  have := h (2 ^ 32 - 1) (2 ^ 32) (2 ^ 32) (by decide) (by decide) (by decide) (by decide)
  revert this
  decide

/-- The repaired body satisfies the full statement. -/
theorem muldivFixed_full_holds : muldivFixed_full := by
  intro v m d _ _ hd hx
  simp only [rateOK, decide_eq_true_eq] at hd
  exact muldivFixed_exact v m d (by omega) hx

/-- The overflow class is exactly "both rates large": inside the domain it needs `(d-1)*m ≥ 2^63`. -/
theorem overflowRegion_needs_both_large (v m d : Int) (hm : rateOK m = true) (hd : rateOK d = true)
    (h : overflowRegion v m d = true) : 2 ^ 63 ≤ (d - 1) * m := by
  simp only [rateOK, decide_eq_true_eq] at hm hd
  apply Int.not_lt.mp
  intro hlt
  have := guard_of_bound v m d (by omega) (by omega) hlt
  simp [overflowRegion, this] at h

example : muldiv 90001 nsPerSec 90000 = some 1000011111 ∧ exact 90001 nsPerSec 90000 = 1000011111 := by decide
example : muldiv (-90001) nsPerSec 90000 = some (-1000011111) := by decide
example : muldiv (2 ^ 32 - 1) (2 ^ 32) (2 ^ 32) = some (-1) ∧ exact (2 ^ 32 - 1) (2 ^ 32) (2 ^ 32) = 2 ^ 32 - 1 := by decide
example : overflowRegion (2 ^ 32 - 1) (2 ^ 32) (2 ^ 32) = true := by decide
example : muldivFixed (2 ^ 32 - 1) (2 ^ 32) (2 ^ 32) = some (2 ^ 32 - 1) := by decide
example : muldiv (-(2 ^ 63)) 1 (-1) = some (-(2 ^ 63)) := by decide   -- MinInt64 / -1 wraps, as in Go
example : muldiv 5 3 0 = none := by decide
example : ∃ s ∈ Gen.sites, s.oneConst = false := by decide  -- sites with both rates free exist
example : InI64 (Int.tmod 12345678901234 90000 * nsPerSec) ∧ InI64 (exact 12345678901234 nsPerSec 90000) := by decide

end MtxVerif.C24
