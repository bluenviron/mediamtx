/-
C10 — loading any configuration input never panics; accepted configurations satisfy the documented
constraints.  Property theorems.
-/
import MtxVerif.Lemmas.C10

namespace MtxVerif.C10

/-- the length check is the only difference: it turns the slice-bounds panic into an error -/
theorem decrypt_eq (b64 : Bytes → Option Bytes) (sopen : Bytes → Bytes → Bytes → Option Bytes) (key file : Bytes) :
    decrypt b64 sopen key file =
      match decryptUnchecked b64 sopen key file with
      | .panic => .err
      | o => o := by
  unfold decrypt decryptUnchecked
  split
  · rfl
  · split
    · rfl
    · split <;> rfl

/-- **`decrypt.Decrypt` never panics**, for every behaviour of base64 / secretbox and every key and file. -/
theorem decrypt_total (b64 : Bytes → Option Bytes) (sopen : Bytes → Bytes → Bytes → Option Bytes) (key file : Bytes) :
    decrypt b64 sopen key file ≠ .panic := by
  rw [decrypt_eq]
  split
  · nofun
  · assumption

theorem stage_total : ∀ s : Option StageCol, stage s ≠ .panic
  | none => nofun
  | some s => by
    have := decrypt_total (fun _ => s.b64) (fun _ _ _ => s.opened) s.key []
    rw [stage]
    split
    · nofun
    · nofun
    · contradiction

/-- the decryption stages of `loadFromFile` (RTSP_CONFKEY, MTX_CONFKEY) never panic. -/
theorem loadDecrypt_total (rk mk : Option StageCol) : loadDecrypt rk mk ≠ .panic := by
  unfold loadDecrypt
  split
  · exact stage_total mk
  · exact stage_total rk

/-- regression record of F-C10 (fixed in a83b2fa): without the length check the function panicked exactly when
the base64 text decoded to fewer than 24 bytes … -/
theorem decryptUnchecked_panic_iff (b64 : Bytes → Option Bytes) (sopen : Bytes → Bytes → Bytes → Option Bytes) (key file : Bytes) :
    decryptUnchecked b64 sopen key file = .panic ↔ ∃ enc, b64 file = some enc ∧ enc.length < 24 := by
  unfold decryptUnchecked
  cases hb : b64 file with
  | none => simp
  | some enc =>
    by_cases hl : enc.length < 24
    · simp [hl]
    · simp only [hl, if_false]
      cases sopen (key32 key) (enc.take 24) (enc.drop 24) <;> simp [hl]

/-- … and the check changed nothing else. -/
theorem decrypt_agrees_unchecked (b64 : Bytes → Option Bytes) (sopen : Bytes → Bytes → Bytes → Option Bytes) (key file : Bytes)
    (h : decryptUnchecked b64 sopen key file ≠ .panic) : decrypt b64 sopen key file = decryptUnchecked b64 sopen key file := by
  rw [decrypt_eq]
  split
  · contradiction
  · rfl

/-- what the executable spec `constraints` means: every global/cross-path constraint holds and every
per-path constraint holds for every path. -/
theorem constraints_iff (c : ConfV) : constraints c = true ↔
    (∀ k ∈ globalConstraints, k.2 c = true) ∧ ∀ p ∈ c.paths, ∀ k ∈ pathConstraints c.playback, k.2 p = true := by
  simp only [constraints, violations, beq_iff_eq, List.append_eq_nil_iff, List.map_eq_nil_iff, List.filter_eq_nil_iff,
    List.flatMap_eq_nil_iff, Bool.not_eq_true', Bool.not_eq_false]

/-- **Main theorem**: every configuration accepted by (the model of) `Conf.Validate` satisfies all the
constraints of the executable spec. -/
theorem validate_ok_constraints {c c' : ConfV} (hn : (c.paths.map (·.name)).Nodup)
    (h : validate c = .ok c') : constraints c' = true := by
  obtain ⟨g, ps', us, hg, rfl, -, halias, hkeys, hus, hgood⟩ := validate_ok_elim hn h
  refine (constraints_iff _).mpr ⟨?_, ?_⟩
  · simp only [globalConstraints, List.forall_mem_append]
    refine ⟨(validateGlobal_ok hg (any_depc_of_keys hkeys) hus).2, ?_⟩
    simp only [crossConstraints, List.forall_mem_cons, forall_mem_nil_iff, and_true]
    refine ⟨decide_eq_true ?_, rpiUnique_of_good hgood, rpiSecondary_of_good hgood⟩
    show (ps'.filter fun p => isAlias p.name).length ≤ 1
    rw [alias_count, names_of_keys hkeys, ← alias_count]
    exact halias
  · intro p hp k hk
    obtain ⟨_, _, r, -, hv, hcore⟩ := hgood p hp
    rw [← pathConstraint_core _ k hk p, hcore, pathConstraint_core _ k hk r.self]
    exact (validatePath_ok hv).2.1 k hk

/-- Validate never changes name, source, camera id, secondary flag of a path (nor adds/removes paths). -/
theorem validate_ok_keys {c c' : ConfV} (hn : (c.paths.map (·.name)).Nodup) (h : validate c = .ok c') :
    c'.paths.map key = c.paths.map key := by
  obtain ⟨g, ps', us, -, rfl, hgp, -, hkeys, -⟩ := validate_ok_elim hn h
  exact hgp ▸ hkeys

/-- a small configuration that the model accepts -/
def sampleOK : ConfV :=
  { rto := 1, wto := 1, wqs := 512, ump := 1452,
    paths := [{ name := b!"cam", nameValid := true, source := b!"publisher", recordPath := b!"%path/%s" }] }

/-- regression record of F-C10d (fixed in /repo 9ca8a07): `Path.validate` now rejects an `rtspUDPSourcePortRange` that
is not a pair, so "the port range has exactly two entries" is one of the per-path constraints `validate_ok_constraints`
proves. The configuration that used to be accepted: -/
def sampleRange1 : ConfV :=
  { sampleOK with paths := [{ name := b!"cam", nameValid := true, source := b!"publisher", recordPath := b!"%path/%s", udpRange := 1 }] }

/-- `writeQueueSize` of an accepted configuration really is a power of two (the bit trick of the code is exact). -/
theorem accepted_wqs_pow2 {c c' : ConfV} (hn : (c.paths.map (·.name)).Nodup) (h : validate c = .ok c') :
    ∃ k : Nat, c'.wqs = (2 ^ k : Nat) := by
  have hk := ((constraints_iff c').mp (validate_ok_constraints hn h)).1 _
    (List.mem_append_left _ (List.mem_of_getElem? (i := 2) rfl))
  simp only [isPow2, Bool.and_eq_true, decide_eq_true_eq, beq_iff_eq] at hk
  obtain ⟨k, hk2⟩ := (Nat.and_sub_one_eq_zero_iff_isPowerOfTwo (by omega)).mp hk.2
  exact ⟨k, by omega⟩

/-- Go iterates `conf.Paths` (a map) in random order when it looks for other rpiCamera streams; the model
looks in sorted order. The verdict cannot depend on that order: whenever two primary streams share a
camera id the configuration is rejected (and otherwise there is at most one candidate). -/
theorem two_primaries_rejected {c : ConfV} (hn : (c.paths.map (·.name)).Nodup)
    (p q : PathV) (hp : p ∈ c.paths) (hq : q ∈ c.paths) (hne : p.name ≠ q.name)
    (h1 : isRpiPrimary p = true) (h2 : isRpiPrimary q = true) (hcam : p.camID = q.camID) :
    ∀ c', validate c ≠ .ok c' := by
  intro c' h
  have hu := ((constraints_iff c').mp (validate_ok_constraints hn h)).1 _
    (List.mem_append_right _ (List.mem_of_getElem? (i := 1) rfl))
  -- the accepted configuration has paths `p'`, `q'` with the keys of `p`, `q`
  obtain ⟨p', hp', kp⟩ := mem_of_keys (validate_ok_keys hn h).symm hp
  obtain ⟨q', hq', kq⟩ := mem_of_keys (validate_ok_keys hn h).symm hq
  obtain ⟨a1, a2, a3, a4⟩ := key_fields kp
  obtain ⟨b1, b2, b3, b4⟩ := key_fields kq
  simp only [rpiUnique, List.all_eq_true, imp_eq_true_iff, Bool.and_eq_true, beq_iff_eq] at hu
  unfold isRpiPrimary at hu h1 h2
  rw [← a2, ← a4] at h1
  rw [← b2, ← b4] at h2
  exact hne (a1 ▸ b1 ▸ (hu p' hp' h1 q' hq' ⟨h2, by rw [a3, b3, hcam]⟩).symm)

/-! ### non-vacuity and sanity examples (tests, not theorems) -/

example : (validate sampleOK).toBool = true := by decide +kernel
example : (validate sampleRange1).toBool = false := by decide +kernel
example : (match validate sampleOK with | .ok c' => constraints c' | .error _ => false) = true := by decide +kernel
-- a writeQueueSize that is not a power of two is rejected
example : (validate { sampleOK with wqs := 6 }).toBool = false := by decide +kernel
-- an `all` path with a static source must be on demand
def sampleAll : PathV := { name := b!"all", source := b!"rtsp://h/p", urlOk := true, recordPath := b!"%path/%s" }
example : (validate { sampleOK with paths := [sampleAll] }).toBool = false := by decide +kernel
example : (validate { sampleOK with paths := [{ sampleAll with sod := true }] }).toBool = true := by decide +kernel
-- class of the open env finding
example : envNilReceiver [b!"MTX_RECORDFORMAT"] [b!"MTX_RECORDFORMATX"] = true := by decide
example : envNilReceiver [b!"MTX_RECORDFORMAT"] [b!"MTX_RECORDFORMAT", b!"MTX_RECORDFORMATX"] = false := by decide
example : envNilReceiver [b!"MTX_RECORDFORMAT"] [b!"MTX_RECORDPATH"] = false := by decide

end MtxVerif.C10
