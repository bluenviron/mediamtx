/-
C06 — Path names cannot escape the recording tree.  Property theorems.
-/
import MtxVerif.Lemmas.C06

namespace MtxVerif.C06
open MtxVerif.C26 (Tok Kind tokenize encodeA substPath)

/-- `IsValidPathName` accepts exactly the names the property describes: non-empty, only letters,
digits, `_ - . /`, no leading/trailing slash, no `.` or `..` segment. -/
theorem valid_iff_spec (n : Bytes) : isValidPathName n = none ↔ validSpec n = true := by
  rw [valid_facts]
  simp [validSpec, and_assoc, -List.all_eq_true]
  exact fun _ => ⟨fun ⟨hl, ht, hc, hd⟩ => ⟨hc, hl, ht, hd⟩, fun ⟨hc, hl, ht, hd⟩ => ⟨hl, ht, hc, hd⟩⟩

theorem valid_chars (n : Bytes) (h : isValidPathName n = none) : ∀ c ∈ n, okChar c = true :=
  List.all_eq_true.mp ((valid_facts n).mp h).2.2.2.1

theorem valid_no_dot_segments (n : Bytes) (h : isValidPathName n = none) :
    dot ∉ splitOn 47 n ∧ dotdot ∉ splitOn 47 n :=
  ((valid_facts n).mp h).2.2.2.2

theorem valid_nonempty_no_edge_slash (n : Bytes) (h : isValidPathName n = none) :
    n ≠ [] ∧ n.head? ≠ some 47 ∧ n.getLast? ≠ some 47 :=
  let ⟨h0, hl, ht, _⟩ := (valid_facts n).mp h
  ⟨h0, hl, ht⟩

/-- the property's first sentence for publishing / reading / segment deletion, code as written:
every name `FindPathConf` accepts is valid.  **False** (witness below): the static map lookup comes
before the validation, and the keys of regexp confs (`~…`) are in that map. -/
def find_accepts_only_valid_full : Prop :=
  ∀ (confs : List ConfEntry) (name key : Bytes), (∀ c ∈ confs, keyOK c = true) →
    findPathConf confs name = .found key → validSpec name = true

/-- Code as written: outside the decidable class `regexKeyAsName` every accepted name is valid. -/
theorem find_accepts_only_valid_partial (confs : List ConfEntry) (name key : Bytes)
    (hk : ∀ c ∈ confs, keyOK c = true) (hx : regexKeyAsName confs name = false)
    (h : findPathConf confs name = .found key) : validSpec name = true := by
  unfold findPathConf at h
  split at h
  · -- the name is a key of the map: not a `~regexp` key by `hx`; `all`/`all_others` are valid names,
    -- and every other key passed `IsValidPathName` when the configuration was loaded
    rename_i c hc
    have hmem := List.mem_of_find?_eq_some hc
    obtain rfl : c.key = name := by simpa using List.find?_some hc
    have hany : confs.any (·.key == c.key) = true := List.any_eq_true.mpr ⟨c, hmem, beq_self_eq_true _⟩
    rw [regexKeyAsName, hany, Bool.and_true] at hx
    have hok := hk c hmem
    unfold keyOK at hok
    split at hok
    · simp only [hx, Bool.false_or, isAllKey, Bool.or_eq_true, beq_iff_eq] at hok
      rcases hok with e | e <;> rw [e] <;> decide
    · exact (valid_iff_spec _).mp (Option.isNone_iff_eq_none.mp hok)
  · split at h
    · cases h
    · exact (valid_iff_spec name).mp (by assumption)

/-- With the alternative order (validate first; not adopted, it contradicts C14's "exact name wins") the
statement would hold for every configuration map. -/
theorem find_accepts_only_valid_fixed (confs : List ConfEntry) (name key : Bytes)
    (h : findPathConfFixed confs name = .found key) : validSpec name = true := by
  unfold findPathConfFixed at h
  split at h
  · cases h
  · rename_i hv
    exact (valid_iff_spec name).mp hv

/-- the alternative order changes nothing for valid names. -/
theorem find_fixed_eq (confs : List ConfEntry) (name : Bytes) (hv : isValidPathName name = none) :
    findPathConfFixed confs name = findPathConf confs name := by
  simp [findPathConfFixed, hv]

/-- Witness: one regexp conf `~^.*$`; the name `~^.*$` is accepted. -/
theorem find_accepts_only_valid_witness : ¬ find_accepts_only_valid_full := by
  intro h
  have := h [⟨asc ['~','^','.','*','$'], true, true⟩] (asc ['~','^','.','*','$']) (asc ['~','^','.','*','$'])
    (by decide) (by decide)
  revert this
  decide

theorem scan_sx_of_plain {v : Bytes} (h : ∀ c ∈ v, c ≠ 47 ∧ c ≠ 46) {q : St} (hq : q ≠ .found)
    (hv : v ≠ [] ∨ q = .sx) : scan q v = .sx := by
  induction v generalizing q with
  | nil => exact hv.resolve_left (· rfl)
  | cons c r ih =>
    have hc := h c List.mem_cons_self
    rw [scan_cons, step_plain hq hc.1 hc.2]
    exact ih (fun x hx => h x (List.mem_cons_of_mem _ hx)) (by decide) (.inr rfl)

theorem scan_plain (v : Bytes) (hv : plainText v = true) (q : St) (hq : q ≠ .found) : scan q v = .sx := by
  simp only [plainText, Bool.and_eq_true, Bool.not_eq_true', List.isEmpty_eq_false_iff, List.all_eq_true,
    bne_iff_ne, ne_eq] at hv
  exact scan_sx_of_plain hv.2 hq (.inl hv.1)

theorem text_plain (k : Kind) : plainText (Kind.text k) = true := by cases k <;> decide

theorem scan_assign {A : Kind → Bytes} (hA : goodAssign A = true) (k : Kind) {q : St} (hq : q ≠ .found) :
    scan q (A k) = .sx := by
  simp only [goodAssign, Bool.and_eq_true, Option.isNone_iff_eq_none, List.all_eq_true] at hA
  cases k
  · exact scan_valid_name _ hA.1 q hq
  all_goals exact scan_plain _ (hA.2 _ (by decide)) q hq

/-- **Expansion lemma**: the scanner cannot tell a name written for a valid path name (and time texts
without `/` and `.`) from the format string itself — from any state.  In particular the written name
has a `..` component iff the format has one. -/
theorem scan_encodeA (toks : List Tok) (A : Kind → Bytes) (hA : goodAssign A = true) (q : St) :
    scan q (encodeA toks A) = scan q (raw toks) := by
  induction toks generalizing q with
  | nil => rfl
  | cons t ts ih =>
    cases t with
    | lit b => exact ih (step q b)
    | cap k =>
      show scan q (A k ++ encodeA ts A) = scan q (Kind.text k ++ raw ts)
      rw [scan_append, scan_append, ih]
      -- a placeholder and the text written for it both take a live scanner to `sx`
      by_cases hq : q = .found
      · simp only [hq, scan_found]
      · rw [scan_assign hA k hq, scan_plain _ (text_plain k) q hq]

theorem hasDotDot_encodeA (toks : List Tok) (A : Kind → Bytes) (hA : goodAssign A = true) :
    hasDotDot (encodeA toks A) = hasDotDot (raw toks) := by
  unfold hasDotDot
  rw [scan_encodeA toks A hA]

theorem cleanStep_prefix (rooted : Bool) (out : List Bytes) {c : Bytes} (hc : c ≠ dotdot) :
    out <+: cleanStep rooted out c := by
  unfold cleanStep
  split
  · exact List.prefix_refl _
  · exact List.prefix_append _ _

/-- cleaning never pops below what was there when only non-`..` components follow. -/
theorem cleanComps_prefix (rooted : Bool) (A B : List Bytes) (hB : dotdot ∉ B) :
    cleanComps rooted A <+: cleanComps rooted (A ++ B) := by
  rw [cleanComps, cleanComps, List.foldl_append]
  generalize List.foldl (cleanStep rooted) [] A = out
  induction B generalizing out with
  | nil => exact List.prefix_refl _
  | cons c cs ih =>
    rw [List.mem_cons, not_or] at hB
    exact (cleanStep_prefix rooted out (Ne.symm hB.1)).trans (ih hB.2 _)

/-- **Containment** (component level).  `base` = absolute directory (as text), `X` = what follows it in
the written file name.  If no component of `X` is `..`, the cleaned file path has the cleaned base
directory as a component-wise prefix. -/
theorem contained_text (base X : Bytes) (hX : hasDotDot X = false) :
    cleanComps true (splitOn 47 base) <+: cleanComps true (splitOn 47 (base ++ 47 :: X)) := by
  rw [splitOn_append_sep]
  apply cleanComps_prefix
  intro hm
  have := (hasDotDot_iff X).mpr hm
  rw [hX] at this
  cases this

/-- **C06, containment for every file name the recorder writes** (and hence for everything found by
walking from the prefix): format = `C/R` where `C` is the `%`-free common path and `R` the rest as
token sequence; if the format's rest has no literal `..` component, then for every valid path name and
all time texts the cleaned absolute file path lies component-wise under the cleaned absolute `C`
(`cwd` absolute; relative format). -/
theorem contained (cwd C : Bytes) (R : List Tok) (A : Kind → Bytes)
    (hA : goodAssign A = true) (hR : hasDotDot (raw R) = false) :
    cleanComps true (splitOn 47 (cwd ++ 47 :: C)) <+:
      cleanComps true (splitOn 47 (cwd ++ 47 :: (C ++ 47 :: encodeA R A))) := by
  have := contained_text (cwd ++ 47 :: C) (encodeA R A) (by rw [hasDotDot_encodeA R A hA, hR])
  simpa using this

/-- the same for an absolute format `C/R` (`C` starts with `/`). -/
theorem contained_abs (C : Bytes) (R : List Tok) (A : Kind → Bytes)
    (hA : goodAssign A = true) (hR : hasDotDot (raw R) = false) :
    cleanComps true (splitOn 47 C) <+: cleanComps true (splitOn 47 (C ++ 47 :: encodeA R A)) :=
  contained_text C (encodeA R A) (by rw [hasDotDot_encodeA R A hA, hR])

/-- `absComps` is what the two statements above talk about. -/
theorem absComps_rel (cwd p : Bytes) (h : p.head? ≠ some 47) :
    absComps cwd p = cleanComps true (splitOn 47 (cwd ++ 47 :: p)) := by
  unfold absComps
  rw [if_neg h, splitOn_append_sep]

theorem absComps_abs (cwd p : Bytes) (h : p.head? = some 47) :
    absComps cwd p = cleanComps true (splitOn 47 p) := by
  unfold absComps
  rw [if_pos h]

/-- `absolutePathInside` only tests a *string* prefix … -/
theorem absolutePathInside_sound (cwd base cand r : Bytes) (h : absolutePathInside cwd base cand = some r) :
    r = abs cwd (clean cand) ∧ (abs cwd (clean base)).isPrefixOf r = true := by
  unfold absolutePathInside at h
  simp only at h
  split at h
  · rename_i hp; cases h; exact ⟨rfl, hp⟩
  · cases h

/-- … which is not containment (`/rec` vs `/rec2`): the code relies on the validity of the name, as its
comment says; that reliance is what `contained` justifies. -/
example : absolutePathInside (asc ['/']) (asc ['/','r','e','c']) (asc ['/','r','e','c','2','/','x'])
    = some (asc ['/','r','e','c','2','/','x']) := by decide +kernel

/-! ### non-vacuity / sanity -/

example : isValidPathName (asc ['c','a','m','/','a','.','b','/','.','.','.']) = none := by decide +kernel
example : isValidPathName (asc ['a','/','.','.','/','b']) = some .dots
    ∧ isValidPathName (asc ['/','a']) = some .lead ∧ isValidPathName (asc ['a','/']) = some .trail
    ∧ isValidPathName (asc ['a','%','2','e']) = some .chars ∧ isValidPathName [] = some .empty
    ∧ isValidPathName (asc ['a','/','/','b']) = none := by decide +kernel
/-- default format `./recordings/%path/%Y-…`: common path and a good assignment -/
example : commonPath (asc ['.','/','r','e','c','/','%','p','a','t','h','/','%','s']) = asc ['.','/','r','e','c'] := by decide +kernel
example : goodAssign (fun k => match k with
    | .path => asc ['c','a','m','/','1'] | .z => asc ['+','0','1','0','0'] | _ => asc ['0','7']) = true := by decide +kernel
example : hasDotDot (raw [.cap .path, .lit 47, .cap .s]) = false := by decide +kernel
/-- a `..` literally in the format (after the placeholders) is the format's fault, not the name's -/
example : hasDotDot (raw [.cap .path, .lit 47, .lit 46, .lit 46, .lit 47, .cap .s]) = true := by decide +kernel
/-- traversal with an invalid name does climb out lexically -/
example : cleanComps true (splitOn 47 (asc ['/','r','/','.','.','/','.','.','/','e','t','c'])) = [asc ['e','t','c']] := by decide +kernel

theorem ite_some_eq_some {α : Type} {c : Prop} [Decidable c] {a k : α} {x : Option α}
    (h : (if c then some a else x) = some k) : c ∧ a = k ∨ ¬c ∧ x = some k := by
  by_cases hc : c
  · rw [if_pos hc] at h; exact .inl ⟨hc, Option.some.inj h⟩
  · rw [if_neg hc] at h; exact .inr ⟨hc, h⟩

theorem kindOfLetter_text (c : UInt8) (k : Kind) (h : MtxVerif.C26.kindOfLetter c = some k) :
    Kind.text k = [37, c] := by
  unfold MtxVerif.C26.kindOfLetter at h
  -- each test of the chain returns the kind whose text is `%` and the letter tested
  repeat (rcases ite_some_eq_some h with ⟨rfl, rfl⟩ | ⟨-, h⟩; · rfl)
  cases h

theorem tokAt_text (s : Bytes) (k : Kind) (n : Nat) (h : MtxVerif.C26.tokAt s = some (k, n)) :
    s = Kind.text k ++ s.drop (n + 1) := by
  unfold MtxVerif.C26.tokAt at h
  split at h
  · rename_i c r
    split at h
    · rename_i hp
      cases h
      exact (List.prefix_iff_eq_append.mp (List.isPrefixOf_iff_prefix.mp hp)).symm
    · simp only [Option.map_eq_some_iff, Prod.mk.injEq] at h
      obtain ⟨k', hk, rfl, rfl⟩ := h
      rw [kindOfLetter_text c k' hk]
      rfl
  · cases h

theorem raw_tokenizeAux (fmt : Bytes) : ∀ skip, raw (MtxVerif.C26.tokenizeAux skip fmt) = fmt.drop skip := by
  induction fmt with
  | nil => intro skip; cases skip <;> rfl
  | cons c r ih =>
    intro skip
    cases skip with
    | succ n => simp only [MtxVerif.C26.tokenizeAux, List.drop_succ_cons]; exact ih n
    | zero =>
      simp only [MtxVerif.C26.tokenizeAux, List.drop_zero]
      split
      · rename_i k n hk
        show Kind.text k ++ raw (MtxVerif.C26.tokenizeAux n r) = c :: r
        rw [ih n]
        exact (tokAt_text (c :: r) k n hk).symm
      · show [c] ++ raw (MtxVerif.C26.tokenizeAux 0 r) = c :: r
        rw [ih 0]; rfl

/-- tokenising a format and writing the tokens back gives the format: the theorems above, stated for
token sequences, are statements about all format strings. -/
theorem raw_tokenize (fmt : Bytes) : raw (tokenize fmt) = fmt := raw_tokenizeAux fmt 0

/-- **C06 containment, format-string form**: relative record path `C/rest` where `rest` (the part from
the first component that contains `%`) has no literal `..` component. -/
theorem contained_fmt (cwd C rest : Bytes) (A : Kind → Bytes)
    (hA : goodAssign A = true) (hR : hasDotDot rest = false) :
    cleanComps true (splitOn 47 (cwd ++ 47 :: C)) <+:
      cleanComps true (splitOn 47 (cwd ++ 47 :: (C ++ 47 :: encodeA (tokenize rest) A))) :=
  contained cwd C (tokenize rest) A hA (by rw [raw_tokenize]; exact hR)

end MtxVerif.C06
