/-
C41 — TLS fingerprint pinning accepts exactly the pinned certificate.
-/
import MtxVerif.Model.C41
import MtxVerif.Lemmas.C41Sites

namespace MtxVerif.C41

/-- `lowerByte` on the byte's numeric value: no wrap-around occurs -/
theorem lowerByte_toNat (c : UInt8) :
    (lowerByte c).toNat = if 65 ≤ c.toNat ∧ c.toNat ≤ 90 then c.toNat + 32 else c.toNat := by
  unfold lowerByte
  simp only [UInt8.le_iff_toNat_le, UInt8.toNat_ofNat, Nat.reducePow, Nat.reduceMod]
  split
  · simp only [UInt8.toNat_add, UInt8.toNat_ofNat, Nat.reducePow, Nat.reduceMod]; omega
  · rfl

theorem isLowerHex_iff (c : UInt8) :
    isLowerHex c = true ↔ (48 ≤ c.toNat ∧ c.toNat ≤ 57) ∨ (97 ≤ c.toNat ∧ c.toNat ≤ 102) := by
  simp [isLowerHex, UInt8.le_iff_toNat_le]

theorem lt_128_iff (c : UInt8) : c < 128 ↔ c.toNat < 128 := UInt8.lt_iff_toNat_lt

theorem lowerByte_hex (c : UInt8) (h : isLowerHex c = true) : lowerByte c = c := by
  rw [isLowerHex_iff] at h
  rw [← UInt8.toNat_inj, lowerByte_toNat]
  split <;> omega

theorem hex_ascii (c : UInt8) (h : isLowerHex c = true) : c < 128 := by
  rw [isLowerHex_iff] at h
  rw [lt_128_iff]
  omega

theorem lowerByte_ascii (c : UInt8) (h : c < 128) : lowerByte c < 128 := by
  rw [lt_128_iff] at h ⊢
  rw [lowerByte_toNat]
  split <;> omega

theorem lowerByte_idem (c : UInt8) : lowerByte (lowerByte c) = lowerByte c := by
  -- the image of `lowerByte` avoids `A`–`Z`
  have := lowerByte_toNat c
  rw [← UInt8.toNat_inj, lowerByte_toNat (lowerByte c)]
  split at this <;> rw [if_neg (by omega)]

theorem accept_cons (a b : UInt8) (as bs : Bytes) :
    accept (a :: as) (b :: bs) = ((decide (a < 128) && lowerByte a == b) && accept as bs) := by
  unfold accept
  rw [List.all_cons, List.map_cons, List.cons_beq_cons, Bool.and_assoc, Bool.and_left_comm (as.all _),
    ← Bool.and_assoc]

/-- **Main theorem.** For every fingerprint string and every digest made of lower-case hex characters,
the connection is accepted iff fingerprint and digest are equal up to ASCII letter case. Nothing else
(chain validity, host name, expiry) enters the decision. -/
theorem accept_iff (fp hash : Bytes) (hh : hash.all isLowerHex = true) :
    accept fp hash = true ↔ ciEq fp hash = true := by
  induction fp generalizing hash with
  | nil => cases hash <;> simp [accept, ciEq]
  | cons a as ih =>
    cases hash with
    | nil => simp [accept, ciEq]
    | cons b bs =>
      simp only [List.all_cons, Bool.and_eq_true] at hh
      -- a hex digit is its own lower-case form and is ASCII
      have hb := lowerByte_hex b hh.1
      have hba := hex_ascii b hh.1
      rw [accept_cons, ciEq, Bool.and_eq_true, Bool.and_eq_true (_ || _), ih bs hh.2]
      refine and_congr_left fun _ => ?_
      simp only [Bool.and_eq_true, Bool.or_eq_true, beq_iff_eq, decide_eq_true_eq, hb, hba, and_true]
      exact ⟨Or.inr, fun h => h.elim (fun e => by subst e; exact ⟨hba, hb⟩) id⟩

/-- Accepted fingerprints have the digest's length (64 for SHA-256): separators, truncation or padding
are rejected. -/
theorem accept_length (fp hash : Bytes) (h : accept fp hash = true) : fp.length = hash.length := by
  simp only [accept, Bool.and_eq_true, beq_iff_eq] at h
  rw [← h.2, List.length_map]

/-- A fingerprint that differs from the digest in some position by more than letter case is rejected. -/
theorem nibble_off_rejected (fp hash : Bytes) (i : Nat) (hi : i < fp.length) (hj : i < hash.length)
    (hne : lowerByte fp[i] ≠ hash[i]) : accept fp hash = false := by
  rw [← Bool.not_eq_true]
  intro h
  simp only [accept, Bool.and_eq_true, beq_iff_eq] at h
  exact hne (by simp [← h.2])
/-- Non-vacuity. -/
example : accept (asc ['A','b','0','F']) (asc ['a','b','0','f']) = true ∧
    accept (asc ['a','b','0','e']) (asc ['a','b','0','f']) = false ∧
    accept (asc ['a','b',':','0','f']) (asc ['a','b','0','f']) = false := by decide +kernel

end MtxVerif.C41
