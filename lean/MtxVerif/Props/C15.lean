/-
C15 — live paths reconcile with configuration after reloads.  Property theorems.

Histories: `Reach V orc P pm` = `pm` is reached from a validated initial configuration set by events
(`reload`, `deliver`, client requests) each satisfying `okEv` (validated sets; client requests at quiet
paths) and the side condition `P`.  `P = fun _ _ => True` is "all histories, all delivery orders".

  * all histories, all orders, code as is:  `live_resolves`, `no_nil_conf_panic`
  * in-order delivery (or variant `fixOrder`):  `static_have_paths`, `conf_is_resolved`
  * no stale migration (or variant `fixGroups`):  `groups_are_resolved`
  * the property's first sentence at full strength = `reconciled_full` — FALSE for the code as is
    (`reconciled_full_false_order` F-C15a, `reconciled_full_false_groups` F-C15b, both decided on concrete
    histories), proved under the two side conditions (`reconciled_partial`) and, with no side condition,
    for the repaired variant (`reconciled_fixed`)
  * the second sentence, per reload step:  `hot_change_keeps`, `other_change_recreates`
  * `specState_ok_iff`: the check the driver runs on the implementation's state IS `Reconciled`.
-/
import MtxVerif.Lemmas.C15InvB
import MtxVerif.Gen.C15

namespace MtxVerif.C15

inductive Reach (V : Variant) (orc : Oracle) (P : PM → Ev → Prop) : PM → Prop
  | init {confs : List Conf} : WFconfs confs → Reach V orc P (initPM confs)
  | step {pm : PM} {ev : Ev} : Reach V orc P pm → okEv pm ev → P pm ev → Reach V orc P (step V orc pm ev)

def Quiescent (pm : PM) : Prop := ∀ p ∈ pm.paths, p.mailbox = []

/-- the first sentence of the property, for a configuration set and the live paths -/
structure Reconciled (orc : Oracle) (confs : List Conf) (D : List LivePath) : Prop where
  /-- every static path configuration has a live path -/
  static : ∀ c ∈ confs, c.regex = false → ∃ p ∈ D, p.name = c.name
  /-- every live path's name resolves, and the path runs with exactly the configuration and the capture
  groups resolution selects -/
  live : ∀ p ∈ D, ∃ c m, resolve orc confs p.name = some (c, m) ∧ p.conf = c ∧ p.confName = c.name ∧
    p.groups = groupsOf m

theorem reach_invA {V : Variant} {orc : Oracle} {P : PM → Ev → Prop} {pm : PM} (h : Reach V orc P pm) :
    InvA orc pm := by
  induction h with
  | init wf => exact (init_inv wf).1
  | step _ hok _ ih => exact invA_step ih hok

theorem reach_invB {V : Variant} {orc : Oracle} {P : PM → Ev → Prop}
    (hP : V.fixOrder = true ∨ ∀ pm ev, P pm ev → Fifo ev) {pm : PM} (h : Reach V orc P pm) : InvB pm := by
  induction h with
  | init wf => exact (init_inv (orc := orc) wf).2.1
  | step hr hok hp ih =>
    exact invB_step (reach_invA hr) ih hok (hP.imp_right fun h => h _ _ hp)

theorem reach_invG {V : Variant} {orc : Oracle} {P : PM → Ev → Prop}
    (hP : V.fixGroups = true ∨ ∀ pm ev, P pm ev → NoStale orc pm ev) {pm : PM} (h : Reach V orc P pm) :
    InvG orc pm := by
  induction h with
  | init wf => exact (init_inv wf).2.2
  | step hr hok hp ih =>
    exact invG_step (reach_invA hr) ih hok (hP.imp_right fun h => h _ _ hp)

/-- every live path's name still resolves to a configuration (the one the pathManager files it under) —
every history, every delivery order, code as is -/
theorem live_resolves {V : Variant} {orc : Oracle} {pm : PM} (h : Reach V orc (fun _ _ => True) pm) :
    ∀ p ∈ pm.paths, ∃ c m, resolve orc pm.confs p.name = some (c, m) ∧ c.name = p.confName :=
  (reach_invA h).res

/-- `pm.pathConfs[pa.confName]` is never nil in `doReloadConf` (the model's explicit panic is unreachable) -/
theorem no_nil_conf_panic {V : Variant} {orc : Oracle} {pm : PM} (h : Reach V orc (fun _ _ => True) pm) :
    pm.panicked = false :=
  (reach_invA h).noPanic

/-- every static path configuration has a live path (in-order delivery) -/
theorem static_have_paths {orc : Oracle} {pm : PM} (h : Reach asIs orc (fun _ ev => Fifo ev) pm) :
    ∀ c ∈ pm.confs, c.regex = false → ∃ p ∈ pm.paths, p.name = c.name :=
  (reach_invB (Or.inr fun _ _ hp => hp) h).stat

/-- each quiet live path runs with exactly the configuration resolution selects (in-order delivery) -/
theorem conf_is_resolved {orc : Oracle} {pm : PM} (h : Reach asIs orc (fun _ ev => Fifo ev) pm) :
    ∀ p ∈ pm.paths, p.mailbox = [] →
      ∃ m, resolve orc pm.confs p.name = some (p.conf, m) ∧ p.confName = p.conf.name :=
  fun p hp hq => conf_resolved ((reach_invA h).res p hp) ((reach_invB (Or.inr fun _ _ hp => hp) h).eff p hp) hq

/-- each live path carries the capture groups resolution selects (no migration with other groups) -/
theorem groups_are_resolved {orc : Oracle} {pm : PM} (h : Reach asIs orc (fun pm ev => NoStale orc pm ev) pm) :
    ∀ p ∈ pm.paths, ∃ c m, resolve orc pm.confs p.name = some (c, m) ∧ p.groups = groupsOf m :=
  reach_invG (Or.inr fun _ _ hp => hp) h

theorem reconciled_of_inv {orc : Oracle} {pm : PM} (a : InvA orc pm) (b : InvB pm) (g : InvG orc pm)
    (hq : Quiescent pm) : Reconciled orc pm.confs pm.paths := by
  constructor
  · exact b.stat
  · intro p hp
    obtain ⟨m, hr, hcn⟩ := conf_resolved (a.res p hp) (b.eff p hp) (hq p hp)
    obtain ⟨c', m', hr', hg⟩ := g p hp
    rw [hr] at hr'
    simp only [Option.some.injEq, Prod.mk.injEq] at hr'
    exact ⟨p.conf, m, hr, rfl, hcn, by rw [hg, hr'.2]⟩

/-- **the property's first sentence at full strength**: after ANY history (any delivery order), at
quiescence the live paths are reconciled with the configuration.  False for the code as is. -/
def reconciled_full : Prop :=
  ∀ (orc : Oracle) (pm : PM), Reach asIs orc (fun _ _ => True) pm → Quiescent pm →
    Reconciled orc pm.confs pm.paths

/-- proved for the code as is under the two explicit side conditions: pending configurations reach a
path in order (F-C15a) and no path migrates to a configuration with other capture groups (F-C15b) -/
theorem reconciled_partial {orc : Oracle} {pm : PM}
    (h : Reach asIs orc (fun pm ev => Fifo ev ∧ NoStale orc pm ev) pm) (hq : Quiescent pm) :
    Reconciled orc pm.confs pm.paths :=
  reconciled_of_inv (reach_invA h) (reach_invB (Or.inr fun _ _ hp => hp.1) h)
    (reach_invG (Or.inr fun _ _ hp => hp.2) h) hq

/-- one theorem for every variant: a side condition is needed only for the defect that is not repaired -/
theorem reconciled_variant {V : Variant} {orc : Oracle} {P : PM → Ev → Prop}
    (hO : V.fixOrder = true ∨ ∀ pm ev, P pm ev → Fifo ev)
    (hG : V.fixGroups = true ∨ ∀ pm ev, P pm ev → NoStale orc pm ev)
    {pm : PM} (h : Reach V orc P pm) (hq : Quiescent pm) : Reconciled orc pm.confs pm.paths :=
  reconciled_of_inv (reach_invA h) (reach_invB hO h) (reach_invG hG h) hq

/-- with only the capture-group repair (notes/C15-fix-stale-groups.diff): in-order delivery is the only
side condition left -/
theorem reconciled_groupsFixed {orc : Oracle} {pm : PM}
    (h : Reach ⟨true, false⟩ orc (fun _ ev => Fifo ev) pm) (hq : Quiescent pm) :
    Reconciled orc pm.confs pm.paths :=
  reconciled_variant (Or.inr fun _ _ hp => hp) (Or.inl rfl) h hq

/-- the full statement holds for the repaired variant: every history, every delivery order -/
theorem reconciled_fixed {orc : Oracle} {pm : PM} (h : Reach fixed orc (fun _ _ => True) pm)
    (hq : Quiescent pm) : Reconciled orc pm.confs pm.paths :=
  reconciled_of_inv (reach_invA h) (reach_invB (Or.inl rfl) h) (reach_invG (Or.inl rfl) h) hq

theorem specState_ok (orc : Oracle) (confs : List Conf) (D : List LivePath) :
    specState orc confs [] [] D = .ok ↔
      (condStatic confs [] D = true ∧ condResolve orc confs D = true ∧ condConf orc confs [] D = true ∧
        condGroups orc confs [] D = true) := by
  unfold specState
  cases condStatic confs [] D <;> cases condResolve orc confs D <;> cases condConf orc confs [] D <;>
    cases condGroups orc confs [] D <;> simp

theorem specState_ok_iff (orc : Oracle) (confs : List Conf) (D : List LivePath) :
    specState orc confs [] [] D = .ok ↔ Reconciled orc confs D := by
  rw [specState_ok]
  simp only [condStatic, condResolve, condConf, condGroups, List.all_eq_true, List.contains_nil,
    Bool.false_or, Bool.or_false, Bool.or_eq_true, hasPath_true]
  constructor
  · rintro ⟨h1, -, h3, h4⟩
    refine ⟨fun c hc hs => (h1 c hc).resolve_left (by simp [hs]), fun p hp => ?_⟩
    have c3 := h3 p hp
    have c4 := h4 p hp
    cases hr : resolve orc confs p.name with
    | none => rw [hr] at c3; cases c3
    | some cm =>
      rw [hr] at c3 c4
      simp only [Bool.and_eq_true, beq_iff_eq] at c3 c4
      exact ⟨cm.1, cm.2, rfl, c3.1, c3.2, c4⟩
  · rintro ⟨hs, hl⟩
    refine ⟨fun c hc => ?_, fun p hp => ?_, fun p hp => ?_, fun p hp => ?_⟩
    · cases hr : c.regex with
      | true => exact Or.inl rfl
      | false => exact Or.inr (hs c hc hr)
    all_goals
      obtain ⟨c, m, hr, hc, hcn, hg⟩ := hl p hp
      simp [hr, hc, hcn, hg]

theorem wf_single (c : Conf) : WFconfs [c] := by
  constructor
  · simp
  · intro a ha b hb _ _
    rw [List.mem_singleton.mp ha, List.mem_singleton.mp hb]

private def nX : Bytes := asc ['x']
private def orcNone : Oracle := fun _ _ => none

/-- F-C15a: static path `x`; two hot reloads; the second pending configuration is received first -/
private def histOrder : PM :=
  step asIs orcNone (step asIs orcNone (step asIs orcNone (step asIs orcNone (initPM [⟨nX, false, 0, 0⟩])
    (.reload [⟨nX, false, 1, 0⟩])) (.reload [⟨nX, false, 2, 0⟩])) (.deliver nX 1)) (.deliver nX 0)

theorem not_full_of_history {orc : Oracle} {pm : PM} (hr : Reach asIs orc (fun _ _ => True) pm)
    (hq : Quiescent pm) (hbad : specState orc pm.confs [] [] pm.paths ≠ .ok) : ¬ reconciled_full :=
  fun h => hbad ((specState_ok_iff _ _ _).mpr (h orc pm hr hq))

theorem reconciled_full_false_order : ¬ reconciled_full :=
  not_full_of_history (pm := histOrder)
    (.step (.step (.step (.step (.init (wf_single _)) (wf_single _) trivial) (wf_single _) trivial) trivial trivial)
      trivial trivial)
    (show ∀ p ∈ histOrder.paths, p.mailbox = [] by decide +kernel) (by decide +kernel)

private def nCam1 : Bytes := asc ['c', 'a', 'm', '1']
private def nRA : Bytes := asc ['~', 'A']
private def nRB : Bytes := asc ['~', 'B']
/-- `~A` matches `cam1` with group "1", `~B` with group "c" -/
private def orcAB : Oracle := fun cn n =>
  if n = nCam1 then
    (if cn = nRA then some [nCam1, asc ['1']] else if cn = nRB then some [nCam1, asc ['c']] else none)
  else none

/-- F-C15b: a publisher creates `cam1` under `~A`; `~A` is replaced by `~B` with the same values -/
private def histGroups : PM :=
  step asIs orcAB (step asIs orcAB (step asIs orcAB (initPM [⟨nRA, true, 0, 0⟩]) (.pub nCam1))
    (.reload [⟨nRB, true, 0, 0⟩])) (.deliver nCam1 0)

theorem okPub : okEv (initPM [⟨nRA, true, 0, 0⟩]) (.pub nCam1) := by
  show ∀ p ∈ (initPM [⟨nRA, true, 0, 0⟩]).paths, p.name = nCam1 → p.mailbox = []
  decide +kernel

theorem reconciled_full_false_groups : ¬ reconciled_full :=
  not_full_of_history (pm := histGroups)
    (.step (.step (.step (.init (wf_single _)) okPub trivial) (wf_single _) trivial) trivial trivial)
    (show ∀ p ∈ histGroups.paths, p.mailbox = [] by decide +kernel) (by decide +kernel)

/-- the same two histories are reconciled in the repaired variant (the path is recreated / takes the
latest configuration) -/
example : (step fixed orcNone (step fixed orcNone (step fixed orcNone (step fixed orcNone
    (initPM [⟨nX, false, 0, 0⟩]) (.reload [⟨nX, false, 1, 0⟩])) (.reload [⟨nX, false, 2, 0⟩]))
    (.deliver nX 1)) (.deliver nX 0)).paths.map (·.conf.hot) = [2] := by decide +kernel
example : (step fixed orcAB (step fixed orcAB (initPM [⟨nRA, true, 0, 0⟩]) (.pub nCam1))
    (.reload [⟨nRB, true, 0, 0⟩])).paths = [] := by decide +kernel

/-- a change limited to hot-reloadable fields (the path's name resolves to the configuration it already
has, other fields equal) keeps the path object and its clients -/
theorem hot_change_keeps {V : Variant} {orc : Oracle} {pm : PM} (a : InvA orc pm) (b : InvB pm)
    {new : List Conf} {p : LivePath} (hp : p ∈ pm.paths) {nc : Conf} {m : Option (List Bytes)}
    (hr : resolve orc new p.name = some (nc, m)) (hname : nc.name = p.confName)
    (hcold : nc.cold = p.effective.cold) :
    ∃ q ∈ (reload V orc pm new).paths, q.name = p.name ∧ q.inc = p.inc ∧ q.pub = p.pub ∧ q.readers = p.readers := by
  -- the path is filed under its effective configuration, whose other fields are those of `nc`
  have hcu : canUpdate p.effective nc = true := by
    unfold canUpdate; rw [hcold]; exact beq_self_eq_true _
  have : ∃ q, applyDec p (decidePath V orc pm.confs new p) = some q := by
    rw [decidePath_some a.wf.nodup hr (b.eff p hp), if_pos hname, hcu, if_pos rfl]
    split
    · exact ⟨_, rfl⟩
    · exact ⟨_, rfl⟩
  obtain ⟨q, hq⟩ := this
  exact ⟨q, cs_sub new _ _ (List.mem_filterMap.mpr ⟨p, hp, hq⟩), applyDec_some hq⟩

/-- any other change — the name no longer resolves, or a field that is not hot-reloadable differs —
ends the path object (a static configuration gets a new one, without clients) -/
theorem other_change_recreates {V : Variant} {orc : Oracle} {pm : PM} (a : InvA orc pm) (b : InvB pm)
    {new : List Conf} {p : LivePath} (hp : p ∈ pm.paths)
    (hchg : resolve orc new p.name = none ∨
      ∃ nc m, resolve orc new p.name = some (nc, m) ∧ nc.cold ≠ p.effective.cold) :
    ∀ q ∈ (reload V orc pm new).paths, q.inc ≠ p.inc := by
  have hclose : applyDec p (decidePath V orc pm.confs new p) = none := by
    rcases hchg with hr | ⟨nc, m, hr, hcold⟩
    · rw [decidePath_none hr]; rfl
    · -- the path is filed under its effective configuration, which differs from `nc` outside the hot fields
      have hcu : canUpdate p.effective nc = false := beq_false_of_ne (Ne.symm hcold)
      have hne : nc ≠ p.effective := fun e => hcold (by rw [e])
      rw [decidePath_some a.wf.nodup hr (b.eff p hp), if_neg hne, hcu]
      simp only [Bool.false_and, Bool.false_eq_true, if_false, ite_self]
      rfl
  intro q hq hinc
  rcases mem_reload hq with ⟨p', hp', hpq⟩ | ⟨c, _, _, i, hi, rfl⟩
  · obtain rfl := key_inj (·.inc) a.incs p' hp' p hp ((applyDec_some hpq).2.1.symm.trans hinc)
    rw [hclose] at hpq
    cases hpq
  · exact absurd hinc (Nat.ne_of_gt (Nat.lt_of_lt_of_le (a.incLt p hp) hi))

/-! ### facts regenerated from the source (tools/xlate/c15) -/

/-- `pathConfCanBeUpdated` has the shape `clone := old.Clone(); clone.X = new.X …; return new.Equal(clone)`
(checked by the extractor) and the overwritten fields are exactly: name, regexp, forwarding, recording, and
these camera controls — the property's hot-reloadable fields.  Everything else is `cold` in the model. -/
theorem hot_fields_fact : Gen.C15.hotAssigned =
    ["Name", "Regexp", "Forward",
     "Record", "RecordPath", "RecordFormat", "RecordPartDuration", "RecordMaxPartSize", "RecordSegmentDuration",
     "RecordDeleteAfter",
     "RPICameraBrightness", "RPICameraContrast", "RPICameraSaturation", "RPICameraSharpness", "RPICameraExposure",
     "RPICameraFlickerPeriod", "RPICameraAWB", "RPICameraAWBGains", "RPICameraDenoise", "RPICameraShutter",
     "RPICameraMetering", "RPICameraGain", "RPICameraEV", "RPICameraFPS", "RPICameraTextOverlayEnable",
     "RPICameraTextOverlay", "RPICameraIDRPeriod", "RPICameraBitrate"] := rfl

/-- `doReloadConf` hands a configuration to a path with `go pa.reloadConf(c)` (two call sites): hence the
mailbox with arbitrary delivery order in the model -/
theorem reload_is_go_fact : Gen.C15.reloadIsGo = true ∧ Gen.C15.reloadConfCalls = 2 := ⟨rfl, rfl⟩

/-! ### non-vacuity -/

/-- a history satisfying both side conditions that exercises reload, in-order delivery and clients -/
example : Reach asIs orcAB (fun pm ev => Fifo ev ∧ NoStale orcAB pm ev)
    (step asIs orcAB (step asIs orcAB (step asIs orcAB (initPM [⟨nRA, true, 0, 0⟩]) (.pub nCam1))
      (.reload [⟨nRA, true, 3, 0⟩])) (.deliver nCam1 0)) :=
  .step (.step (.step (.init (wf_single _)) okPub ⟨trivial, trivial⟩) (wf_single _)
    ⟨trivial, fun p hp nc m hr hn => by
      -- the only configuration has the name every live path is filed under
      have h1 : nc.name = nRA := by rw [List.mem_singleton.mp (resolve_some hr).1]
      have h2 : ∀ p ∈ (step asIs orcAB (initPM [⟨nRA, true, 0, 0⟩]) (.pub nCam1)).paths, p.confName = nRA := by
        decide +kernel
      exact absurd (h1.trans (h2 p hp).symm) hn⟩) trivial ⟨rfl, trivial⟩

example : (step asIs orcAB (step asIs orcAB (step asIs orcAB (initPM [⟨nRA, true, 0, 0⟩]) (.pub nCam1))
      (.reload [⟨nRA, true, 3, 0⟩])) (.deliver nCam1 0)).paths.map (fun p => (p.conf.hot, p.groups, p.pub)) =
    [(3, [asc ['1']], true)] := by decide +kernel

end MtxVerif.C15
