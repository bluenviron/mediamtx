/-
C01 — internal authentication decides exactly per configured users.  Property theorems.
All statements hold for every oracle (regexp / sha256 / argon2 results) and every custom verifier.

The executable spec of the model file (`userAdmits`, `permGrants`, `credMatches`) is a Boolean formula
shaped like the property's wording, so it is shown equal to the code by case analysis and equivalent
to the wording by rewriting; every statement about `authenticate` then goes through `authInternal_iff`.
-/
import MtxVerif.Model.C01

namespace MtxVerif.C01

/-- "grants that action (for publish/read/playback: empty path, equal path, or a '~' regular
expression found in the path)".  The three path forms are the three forms of a *configured* path:
empty, `~`+regex, or a literal. -/
def Grants (o : Oracle) (perms : List Perm) (action path : Bytes) : Prop :=
  ∃ p ∈ perms, p.action = action ∧
    (isPathAction action = false ∨ p.path = [] ∨
     (∃ pat, p.path = tilde :: pat ∧ o.regexFind pat path = some true) ∨
     (p.path.head? ≠ some tilde ∧ p.path = path))

/-- a configured credential "matches" a supplied value (plain, sha256 or argon2; empty accepts all) -/
def Matches (o : Oracle) (d guess : Bytes) : Prop :=
  (∃ h, d = sha256Prefix ++ h ∧ h = o.sha256b64 guess) ∨
  (∃ e, d = argon2Prefix ++ e ∧ o.argon2ok guess e = true) ∨
  (¬ sha256Prefix <+: d ∧ ¬ argon2Prefix <+: d ∧ (d = [] ∨ d = guess))

/-- "matches the supplied username and password" — through the protocol's digest verifier if the
request carries one. -/
def CredsMatch (o : Oracle) (u : User) (r : Req) : Prop :=
  match r.custom with
  | some f => f u.user u.pass = true
  | none => Matches o u.user r.user ∧ Matches o u.pass r.pass

def Admits (o : Oracle) (r : Req) (u : User) : Prop :=
  (u.ips = [] ∨ ∃ n ∈ u.ips, ipnetContains n r.ip = true) ∧
  Grants o u.perms r.action r.path ∧
  (u.user = anyUser ∨ CredsMatch o u r)

theorem permGrants_eq (o : Oracle) (p : Perm) (a path : Bytes) :
    permGrants o p a path = permMatches o p a path := by
  obtain ⟨pa, pp⟩ := p
  unfold permGrants permMatches
  by_cases ha : pa = a
  · subst ha
    simp only [beq_self_eq_true, Bool.true_and, ↓reduceIte]
    cases isPathAction pa
    · rfl
    · match pp with
      | [] => rfl
      | c :: pat =>
        by_cases hc : c = tilde
        · subst hc
          simp only [List.tail_cons]
          cases o.regexFind pat path with
          | none => rfl
          | some b => cases b <;> rfl
        · rw [Bool.eq_iff_iff]
          simp [hc]
  · rw [if_neg ha, beq_eq_false_iff_ne.mpr ha]
    rfl

/-! ### the three loops return at the first hit, so each is `List.any` -/

theorem matchesPermission_eq_any (o : Oracle) (perms : List Perm) (a path : Bytes) :
    matchesPermission o perms a path = perms.any (permGrants o · a path) := by
  induction perms with
  | nil => rfl
  | cons p ps ih => simp [matchesPermission, ih, permGrants_eq]

theorem ipsContain_eq_any (ns : List IPNet) (ip : Bytes) :
    ipsContain ns ip = ns.any (ipnetContains · ip) := by
  induction ns with
  | nil => rfl
  | cons n ns ih => simp [ipsContain, ih]

theorem authInternal_eq_any (o : Oracle) (r : Req) (us : List User) :
    authInternal o r us = us.any (authWithUser o r) := by
  induction us with
  | nil => rfl
  | cons u us ih => simp [authInternal, ih]

theorem credMatches_eq (o : Oracle) (d g : Bytes) : credMatches o d g = credCheck o d g := by
  unfold credMatches credCheck
  cases sha256Prefix.isPrefixOf d <;> cases argon2Prefix.isPrefixOf d <;> simp
  by_cases hd : d = [] <;> simp [hd]

/-- the early returns of `authenticateWithUser` as one conjunction -/
theorem authWithUser_eq_and (o : Oracle) (r : Req) (u : User) :
    authWithUser o r u = ((u.ips.isEmpty || ipsContain u.ips r.ip) &&
      matchesPermission o u.perms r.action r.path && (u.user == anyUser || credsOK o u r)) := by
  unfold authWithUser
  simp only [Bool.if_false_left, Bool.if_true_right]
  cases u.ips <;> simp [Bool.and_assoc, Bool.beq_eq_decide_eq]

theorem authWithUser_eq (o : Oracle) (r : Req) : authWithUser o r = userAdmits o r := by
  funext u
  simp only [authWithUser_eq_and, userAdmits, ipsContain_eq_any, matchesPermission_eq_any, credsOK,
    credMatches_eq]

/-! The spec takes lists apart with `head?`/`tail` and `isPrefixOf`/`drop`; the wording names the parts. -/

theorem exists_eq_cons_iff {c : UInt8} {l : Bytes} {P : Bytes → Prop} :
    (∃ t, l = c :: t ∧ P t) ↔ l.head? = some c ∧ P l.tail := by
  cases l <;> simp [and_assoc]

theorem exists_eq_append_iff {p d : Bytes} {P : Bytes → Prop} :
    (∃ t, d = p ++ t ∧ P t) ↔ p <+: d ∧ P (d.drop p.length) := by
  constructor
  · rintro ⟨t, rfl, h⟩
    exact ⟨List.prefix_append .., by rwa [List.drop_left]⟩
  · rintro ⟨⟨t, rfl⟩, h⟩
    exact ⟨t, rfl, by rwa [List.drop_left] at h⟩

theorem permGrants_iff (o : Oracle) (p : Perm) (a path : Bytes) :
    permGrants o p a path = true ↔
      (p.action = a ∧ (isPathAction a = false ∨ p.path = [] ∨
        (∃ pat, p.path = tilde :: pat ∧ o.regexFind pat path = some true) ∨
        (p.path.head? ≠ some tilde ∧ p.path = path))) := by
  simp only [permGrants, exists_eq_cons_iff, Bool.and_eq_true, Bool.or_eq_true, beq_iff_eq,
    Bool.not_eq_true', List.isEmpty_iff, bne_iff_ne, ne_eq, or_assoc]

theorem prefixes_disjoint {d : Bytes} (ha : argon2Prefix <+: d) : ¬ sha256Prefix <+: d := by
  obtain ⟨t, rfl⟩ := ha
  rintro ⟨t', h⟩
  -- the two prefixes differ in their first byte
  have : some (115 : UInt8) = some 97 := congrArg List.head? h
  cases this

theorem credMatches_iff (o : Oracle) (d g : Bytes) : credMatches o d g = true ↔ Matches o d g := by
  -- the spec says "not sha256" in its argon2 case; `Matches` leaves that to the prefixes being disjoint
  have hna : (¬ sha256Prefix <+: d ∧ argon2Prefix <+: d ∧
        o.argon2ok g (d.drop argon2Prefix.length) = true) ↔
      (argon2Prefix <+: d ∧ o.argon2ok g (d.drop argon2Prefix.length) = true) :=
    ⟨And.right, fun h => ⟨prefixes_disjoint h.1, h⟩⟩
  unfold Matches
  rw [exists_eq_append_iff, exists_eq_append_iff, ← hna]
  simp only [credMatches, Bool.or_eq_true, Bool.and_eq_true, Bool.not_eq_true', ← Bool.not_eq_true,
    List.isPrefixOf_iff_prefix, beq_iff_eq, List.isEmpty_iff, and_assoc, or_assoc]
  -- both prefixes have length 7
  rfl

/-- the executable spec used by the driver is the right-hand side of `auth_iff` -/
theorem userAdmits_iff (o : Oracle) (r : Req) (u : User) : userAdmits o r u = true ↔ Admits o r u := by
  simp only [userAdmits, Admits, Grants, Bool.and_eq_true, Bool.or_eq_true, List.isEmpty_iff,
    List.any_eq_true, beq_iff_eq, permGrants_iff, and_assoc]
  unfold CredsMatch
  cases r.custom <;> simp only [credMatches_iff, Bool.and_eq_true]

theorem specAdmit_iff (o : Oracle) (us : List User) (r : Req) :
    specAdmit o us r = true ↔ ∃ u ∈ us, Admits o r u := by
  simp only [specAdmit, List.any_eq_true, userAdmits_iff]

theorem matchesPermission_iff (o : Oracle) (perms : List Perm) (a path : Bytes) :
    matchesPermission o perms a path = true ↔ Grants o perms a path := by
  simp only [matchesPermission_eq_any, List.any_eq_true, permGrants_iff, Grants]

theorem authInternal_iff (o : Oracle) (r : Req) (us : List User) :
    authInternal o r us = true ↔ ∃ u ∈ us, Admits o r u := by
  simp only [authInternal_eq_any, List.any_eq_true, authWithUser_eq, userAdmits_iff]

/-- for a non-empty configured credential (config validation rejects empty user names) "matches" has
no accept-anything case: it is the hash comparison or byte equality.  For the empty credential it
accepts every supplied value — for user names too, not only for passwords (mirrored quirk). -/
theorem matches_nonempty (o : Oracle) (d g : Bytes) (hd : d ≠ []) :
    Matches o d g ↔
      ((∃ h, d = sha256Prefix ++ h ∧ h = o.sha256b64 g) ∨
       (∃ e, d = argon2Prefix ++ e ∧ o.argon2ok g e = true) ∨
       (¬ sha256Prefix <+: d ∧ ¬ argon2Prefix <+: d ∧ d = g)) := by
  unfold Matches
  simp [hd]

theorem matches_empty (o : Oracle) (g : Bytes) : Matches o [] g := by
  refine Or.inr (Or.inr ⟨?_, ?_, Or.inl rfl⟩) <;> simp [sha256Prefix, argon2Prefix, asc]

/-- **C01, decision at full strength**: under the internal method a request is admitted iff some
configured user entry has an empty IP list or one containing the client IP, grants the action on the
path, and either is `any` or matches the supplied credentials.  For all user lists, requests,
oracles and custom verifiers. -/
theorem auth_iff (o : Oracle) (us : List User) (r : Req) :
    (∃ name, authenticate o us r = .ok name) ↔ ∃ u ∈ us, Admits o r u := by
  rw [← authInternal_iff, authenticate]
  cases authInternal o r us <;> simp

/-- admitted requests report the supplied username -/
theorem auth_user (o : Oracle) (us : List User) (r : Req) (name : Bytes)
    (h : authenticate o us r = .ok name) : name = r.user := by
  unfold authenticate at h
  split at h
  · exact (Outcome.ok.inj h).symm
  · exact absurd h (by simp)

/-- rejected requests ask for credentials exactly when asking is allowed and neither a username nor
a password was supplied (the token field is not consulted by the internal method). -/
theorem ask_iff (o : Oracle) (us : List User) (r : Req) :
    authenticate o us r = .err true ↔
      ((¬ ∃ u ∈ us, Admits o r u) ∧ r.enableAsk = true ∧ r.user = [] ∧ r.pass = []) := by
  rw [← authInternal_iff, authenticate]
  cases authInternal o r us <;> simp [and_assoc]

/-- every outcome is either `ok` or `err`: rejection iff not admitted -/
theorem reject_iff (o : Oracle) (us : List User) (r : Req) :
    (∃ ask, authenticate o us r = .err ask) ↔ ¬ ∃ u ∈ us, Admits o r u := by
  rw [← authInternal_iff, authenticate]
  cases authInternal o r us <;> simp

/-- the model always satisfies the executable spec (so a spec FAIL can only come from the code) -/
theorem model_conforms (o : Oracle) (us : List User) (r : Req) :
    specCheck o us r (authenticate o us r) = none := by
  have h : specAdmit o us r = authInternal o r us := by
    simp only [specAdmit, authInternal_eq_any, authWithUser_eq]
  unfold specCheck authenticate
  rw [h]
  cases authInternal o r us <;> simp

/-- the decision does not depend on the order of the configured users -/
theorem auth_users_perm (o : Oracle) (us us' : List User) (r : Req) (h : us.Perm us') :
    authenticate o us r = authenticate o us' r := by
  unfold authenticate
  rw [authInternal_eq_any, authInternal_eq_any, h.any_eq]

/-- entry-wise: same credentials, IP entries and permissions permuted -/
def SameUpToOrder : List User → List User → Prop
  | [], [] => True
  | u :: us, u' :: us' =>
    (u.user = u'.user ∧ u.pass = u'.pass ∧ u.ips.Perm u'.ips ∧ u.perms.Perm u'.perms) ∧
      SameUpToOrder us us'
  | _, _ => False

/-- … nor on the order of the permissions (or of the IP entries) inside each user entry -/
theorem auth_perms_perm (o : Oracle) (us us' : List User) (r : Req) (h : SameUpToOrder us us') :
    authenticate o us r = authenticate o us' r := by
  have : authInternal o r us = authInternal o r us' := by
    fun_induction SameUpToOrder us us' with
    | case1 => rfl
    | case2 u us u' us' ih =>
      obtain ⟨⟨h1, h2, h3, h4⟩, h⟩ := h
      -- an entry's verdict looks at its two lists only through `List.any` and `List.isEmpty`
      have : authWithUser o r u = authWithUser o r u' := by
        simp only [authWithUser_eq, userAdmits, h1, h2, h3.any_eq, h4.any_eq, h3.isEmpty_eq]
      rw [authInternal, authInternal, this, ih h]
    | case3 => exact h.elim
  rw [authenticate, authenticate, this]

theorem to4_length {x y : Bytes} (hx : to4 x = some y) : y.length = 4 := by
  unfold to4 at hx
  split at hx
  · rename_i h; cases hx; exact h
  · split at hx
    · rename_i h; cases hx; simp [h.1]
    · cases hx

theorem to4_of_length {x : Bytes} (h : x.length = 4) : to4 x = some x := if_pos h

theorem nnm_v4 {n : IPNet} {v4 : Bytes} (h : to4 n.ip = some v4) :
    networkNumberAndMask n =
      if n.mask.length = 4 then (v4, n.mask)
      else if n.mask.length = 16 then (v4, n.mask.drop 12) else ([], []) := by
  simp [networkNumberAndMask, netIP, h, to4_length h]

theorem nnm_v6 {n : IPNet} (h : to4 n.ip = none) (h16 : n.ip.length = 16) :
    networkNumberAndMask n = if n.mask.length = 16 then (n.ip, n.mask) else ([], []) := by
  simp [networkNumberAndMask, netIP, h, h16]
  omega

theorem nnm_bad {n : IPNet} (h : to4 n.ip = none) (h16 : n.ip.length ≠ 16) :
    networkNumberAndMask n = ([], []) := by
  simp [networkNumberAndMask, netIP, h, h16]

/-- `networkNumberAndMask` returns slices of equal length: `m[i]` in `Contains` cannot panic. -/
theorem nnm_len (n : IPNet) : (networkNumberAndMask n).1.length = (networkNumberAndMask n).2.length := by
  cases hto : to4 n.ip with
  | some v4 =>
    have h4 := to4_length hto
    rw [nnm_v4 hto]
    split
    · simp [*]
    · split <;> simp [*]
  | none =>
    by_cases h16 : n.ip.length = 16
    · rw [nnm_v6 hto h16]; split <;> simp [*]
    · rw [nnm_bad hto h16]

/-- bit `k` of a byte string in network order (bit 0 = most significant bit of the first byte) -/
def bitAt : Bytes → Nat → Bool
  | [], _ => false
  | a :: as, k => if k < 8 then a.toNat.testBit (7 - k) else bitAt as (k - 8)

theorem maskByte_testBit (j i : Nat) :
    (maskByte j).toNat.testBit i = (decide (i < 8) && !decide (i + j < 8)) := by
  have hle : 255 / 2 ^ j ≤ 255 := Nat.div_le_self ..
  rw [maskByte, UInt8.toNat_ofNat_of_lt' (Nat.lt_of_le_of_lt (Nat.sub_le ..) (by decide)),
    show 255 - 255 / 2 ^ j = 2 ^ 8 - (255 / 2 ^ j + 1) by rw [Nat.add_comm, Nat.sub_add_eq],
    Nat.testBit_two_pow_sub_succ (Nat.lt_succ_of_le hle), Nat.testBit_div_two_pow]
  exact congrArg (decide (i < 8) && !·) (Nat.testBit_two_pow_sub_one 8 (i + j))

/-- so the case distinction in `cidrMask` is not needed -/
theorem cidrMask_succ (n len : Nat) : cidrMask n (len + 1) = maskByte n :: cidrMask (n - 8) len := by
  have : 8 ≤ n → maskByte n = 0xff := fun h => by
    rw [maskByte, Nat.div_eq_of_lt (Nat.lt_of_lt_of_le (by decide) (Nat.pow_le_pow_right (by decide) h))]
    rfl
  show (if n ≥ 8 then 0xff else maskByte n) :: _ = _
  split <;> simp [*]

theorem maskedEq_cons (a m b : UInt8) (as ms bs : Bytes) :
    maskedEq (a :: as) (m :: ms) (b :: bs) = ((a &&& m == b &&& m) && maskedEq as ms bs) := rfl

theorem bitAt_cons (a : UInt8) (as : Bytes) (k : Nat) :
    bitAt (a :: as) k = if k < 8 then a.toNat.testBit (7 - k) else bitAt as (k - 8) := rfl

/-- masked comparison of one byte = agreement on the leading `j` bits -/
theorem byte_masked_eq (a b : UInt8) (j : Nat) :
    a &&& maskByte j = b &&& maskByte j ↔
      ∀ k, k < j → k < 8 → a.toNat.testBit (7 - k) = b.toNat.testBit (7 - k) := by
  simp only [← UInt8.toNat_inj, UInt8.toNat_and, Nat.eq_iff_testBit_eq, Nat.testBit_and, maskByte_testBit]
  -- bit `i` of the mask is set iff `i = 7 - k` for some `k < min j 8`
  constructor
  · intro h k hk hk8
    simpa [show 7 - k < 8 ∧ ¬ 7 - k + j < 8 by omega] using h (7 - k)
  · intro h i
    by_cases hi : i < 8 ∧ ¬ i + j < 8
    · simpa [hi, Nat.sub_sub_self (Nat.le_of_lt_succ hi.1)] using h (7 - i) (by omega) (by omega)
    · have : (decide (i < 8) && !decide (i + j < 8)) = false := by simpa using hi
      simp [this]

/-- **mask characterisation (list level, any length, any prefix size)**: comparing under
`CIDRMask(n, 8·len)` is agreement on the first `n` bits. -/
theorem maskedEq_cidr (nn ip : Bytes) (n : Nat) (hlen : ip.length = nn.length) :
    maskedEq nn (cidrMask n nn.length) ip = true ↔ ∀ k, k < n → bitAt nn k = bitAt ip k := by
  induction nn generalizing ip n with
  | nil =>
    cases List.eq_nil_of_length_eq_zero hlen
    exact ⟨fun _ _ _ => rfl, fun _ => rfl⟩
  | cons a as ih =>
    obtain ⟨b, bs, rfl⟩ := List.exists_cons_of_length_eq_add_one hlen
    simp only [List.length_cons, cidrMask_succ, maskedEq_cons, Bool.and_eq_true, beq_iff_eq,
      byte_masked_eq, ih bs (n - 8) (Nat.succ.inj hlen)]
    -- bits 0..7 are in the first byte, bit `k + 8` is bit `k` of the rest
    constructor
    · rintro ⟨h1, h2⟩ k hk
      by_cases h8 : k < 8
      · simpa [bitAt_cons, h8] using h1 k hk h8
      · simpa [bitAt_cons, h8] using h2 (k - 8) (Nat.sub_lt_sub_right (Nat.le_of_not_lt h8) hk)
    · intro h
      exact ⟨fun k hk h8 => by simpa [bitAt_cons, h8] using h k hk,
        fun k hk => by
          simpa [bitAt_cons, Nat.not_lt.mpr (Nat.le_add_left 8 k)] using h (k + 8) (Nat.add_lt_of_lt_sub hk)⟩

/-- well-formed network as produced by `IPNetwork.UnmarshalJSON`: 4-byte address, or 16-byte address
that is not v4-mapped; mask = `CIDRMask(n, 8·len)`. -/
def WellFormed (net : IPNet) (n : Nat) : Prop :=
  (net.ip.length = 4 ∨ (net.ip.length = 16 ∧ to4 net.ip = none)) ∧ net.mask = cidrMask n net.ip.length

theorem cidrMask_length (n len : Nat) : (cidrMask n len).length = len := by
  induction len generalizing n with
  | zero => rfl
  | succ l ih => rw [cidrMask_succ, List.length_cons, ih]

theorem cidrMask_drop (n k len : Nat) : (cidrMask n (k + len)).drop k = cidrMask (n - 8 * k) len := by
  induction k generalizing n with
  | zero => simp
  | succ k ih =>
    rw [Nat.add_right_comm, cidrMask_succ, List.drop_succ_cons, ih]
    rw [Nat.sub_sub, Nat.mul_succ, Nat.add_comm]

theorem nnm_wellFormed {net : IPNet} {n : Nat} (h : WellFormed net n) :
    networkNumberAndMask net = (net.ip, net.mask) := by
  obtain ⟨h4 | ⟨h16, hto⟩, hmask⟩ := h
  · simp [nnm_v4 (to4_of_length h4), hmask, cidrMask_length, h4]
  · simp [nnm_v6 hto h16, hmask, cidrMask_length, h16]

/-- **IP mask characterisation**: for a well-formed `/n` network (v4 or v6, any `n`), the client IP
(v4-mapped v6 addresses collapsed to 4 bytes, as `To4` does) is contained iff it has the network's
address length and agrees with the network address on the first `n` bits. -/
theorem ipContains_mask (net : IPNet) (n : Nat) (ip : Bytes) (h : WellFormed net n) :
    ipnetContains net ip = true ↔
      (((to4 ip).getD ip).length = net.ip.length ∧
        ∀ k, k < n → bitAt net.ip k = bitAt ((to4 ip).getD ip) k) := by
  simp only [ipnetContains, nnm_wellFormed h]
  by_cases hl : ((to4 ip).getD ip).length = net.ip.length
  · simpa [hl, h.2] using maskedEq_cidr net.ip _ n hl
  · simp [hl]

theorem unm_cidr_v6 {c : IPNet} (pip : Option Bytes) (h : to4 c.ip = none) :
    unmarshalIPNet (some c) pip = .ok c := by
  simp [unmarshalIPNet, h]

theorem unm_cidr_v4 {c : IPNet} {v4 : Bytes} (pip : Option Bytes) (h : to4 c.ip = some v4)
    (hl : ¬ c.mask.length < 4) :
    unmarshalIPNet (some c) pip = .ok ⟨v4, c.mask.drop (c.mask.length - 4)⟩ := by
  simp [unmarshalIPNet, h, hl]

theorem wellFormed_v4 {v4 : Bytes} (h : v4.length = 4) (m : Nat) : WellFormed ⟨v4, cidrMask m 4⟩ m :=
  ⟨Or.inl h, by rw [h]⟩

/-- what `IPNetwork.UnmarshalJSON` builds from a well-formed `net.ParseCIDR` / `net.ParseIP` result is
well-formed (so `ipContains_mask` applies to every configured entry), and it never panics. -/
theorem unmarshal_wellformed (cidr : Option IPNet) (pip : Option Bytes) (n : Nat)
    (hc : ∀ c, cidr = some c → (c.ip.length = 4 ∨ c.ip.length = 16) ∧ c.mask = cidrMask n c.ip.length ∧
      (c.ip.length = 16 → to4 c.ip ≠ none → 96 ≤ n))
    (hp : ∀ p, pip = some p → p.length = 16) :
    unmarshalIPNet cidr pip = .err ∨
      ∃ net m, unmarshalIPNet cidr pip = .ok net ∧ WellFormed net m := by
  cases cidr with
  | some c =>
    obtain ⟨hl, hm, hv⟩ := hc c rfl
    right
    cases hto : to4 c.ip with
    | none =>
      have h16 : c.ip.length = 16 := hl.resolve_left fun h4 => by simp [to4_of_length h4] at hto
      exact ⟨c, n, unm_cidr_v6 pip hto, Or.inr ⟨h16, hto⟩, hm⟩
    | some v4 =>
      have h4 := to4_length hto
      rcases hl with hl | hl
      · refine ⟨_, n, unm_cidr_v4 pip hto (by simp [hm, cidrMask_length, hl]), ?_⟩
        simpa [hm, cidrMask_length, hl] using wellFormed_v4 h4 n
      · -- a v4-mapped CIDR has `n ≥ 96`; the last 4 mask bytes are the `/(n-96)` v4 mask
        refine ⟨_, n - 96, unm_cidr_v4 pip hto (by simp [hm, cidrMask_length, hl]), ?_⟩
        simpa [hm, cidrMask_length, hl, cidrMask_drop n 12 4] using wellFormed_v4 h4 (n - 96)
  | none =>
    cases pip with
    | none => exact Or.inl rfl
    | some p =>
      right
      cases hto : to4 p with
      | some v4 => exact ⟨_, 32, by simp [unmarshalIPNet, hto], wellFormed_v4 (to4_length hto) 32⟩
      | none =>
        exact ⟨⟨p, cidrMask 128 16⟩, 128, by simp [unmarshalIPNet, hto], Or.inr ⟨hp p rfl, hto⟩,
          by simp [hp p rfl]⟩

theorem nnm_collapse {c : IPNet} {v4 : Bytes} (hto : to4 c.ip = some v4)
    (hm : c.mask.length = 4 ∨ c.mask.length = 16) :
    networkNumberAndMask ⟨v4, c.mask.drop (c.mask.length - 4)⟩ = networkNumberAndMask c := by
  rw [nnm_v4 hto, nnm_v4 (n := ⟨v4, _⟩) (to4_of_length (to4_length hto))]
  rcases hm with hm | hm <;> simp [hm]

/-- **the glue preserves meaning**: the network stored by `IPNetwork.UnmarshalJSON` contains exactly
the client addresses that the `net.ParseCIDR` result contains (v4-mapped CIDRs are collapsed to 4
bytes with the last 4 mask bytes). -/
theorem unmarshal_equiv (c : IPNet) (pip : Option Bytes) (hm : c.mask.length = 4 ∨ c.mask.length = 16) :
    ∃ n, unmarshalIPNet (some c) pip = .ok n ∧ ∀ ip, ipnetContains n ip = ipnetContains c ip := by
  cases hto : to4 c.ip with
  | none => exact ⟨c, unm_cidr_v6 pip hto, fun _ => rfl⟩
  | some v4 =>
    refine ⟨_, unm_cidr_v4 pip hto (by omega), fun ip => ?_⟩
    unfold ipnetContains
    rw [nnm_collapse hto hm]

/-- the model's answer always satisfies the glue spec evaluated by the driver -/
theorem unmarshal_conforms (c : Option IPNet) (pip : Option Bytes)
    (hm : ∀ x, c = some x → x.mask.length = 4 ∨ x.mask.length = 16)
    (hp : ∀ a, pip = some a → a.length = 16) :
    specIPNet c pip (unmarshalIPNet c pip) = none := by
  cases c with
  | some x =>
    have hm' := hm x rfl
    cases hto : to4 x.ip with
    | none => simp [unm_cidr_v6 pip hto, specIPNet]
    | some v4 => simp [unm_cidr_v4 pip hto (by omega), specIPNet, nnm_collapse hto hm']
  | none =>
    cases pip with
    | none => rfl
    | some a =>
      have h16 := hp a rfl
      cases hto : to4 a with
      | none => simp [unmarshalIPNet, specIPNet, hto, h16]
      | some v4 =>
        -- the stored `/32` v4 net is the collapsed form of the parsed address with its `/128` mask
        have := nnm_collapse (c := ⟨a, cidrMask 128 16⟩) hto (Or.inr rfl)
        simp [unmarshalIPNet, specIPNet, hto, h16, ← this, cidrMask_length, cidrMask_drop 128 12 4]

/-! ### the `~` corner: literal reading of "equal path"

If one reads the statement's three path forms as a plain disjunction (so that a configured path
`~x` would also grant the request path `~x` by equality), the code agrees whenever the regular
expression `x` is found in the string `~x` — true for every expression built from characters that are
legal in a path name (they all match themselves). -/
def GrantsDisj (o : Oracle) (perms : List Perm) (action path : Bytes) : Prop :=
  ∃ p ∈ perms, p.action = action ∧
    (isPathAction action = false ∨ p.path = [] ∨
     (∃ pat, p.path = tilde :: pat ∧ o.regexFind pat path = some true) ∨ p.path = path)

theorem grants_disj (o : Oracle) (perms : List Perm) (action path : Bytes)
    (hself : ∀ pat, (⟨action, tilde :: pat⟩ : Perm) ∈ perms → path = tilde :: pat →
      o.regexFind pat path = some true) :
    Grants o perms action path ↔ GrantsDisj o perms action path := by
  refine exists_congr fun ⟨a, pth⟩ => and_congr_right fun hp => and_congr_right fun ha => ?_
  refine or_congr_right (or_congr_right ⟨Or.imp_right And.right, ?_⟩)
  rintro (h | h)
  · exact Or.inl h
  -- the only literal match the code does not try is that of a `~` path: there `hself` gives the regex match
  simp only at ha h
  subst ha h
  by_cases hh : pth.head? = some tilde
  · obtain ⟨pat, rfl⟩ := List.head?_eq_some_iff.mp hh
    exact Or.inl ⟨pat, rfl, hself pat hp rfl⟩
  · exact Or.inr ⟨hh, rfl⟩

/-- without that side condition the disjunctive reading is strictly weaker than the code: witness -/
theorem grants_disj_witness :
    ∃ (o : Oracle) (perms : List Perm) (a path : Bytes),
      GrantsDisj o perms a path ∧ ¬ Grants o perms a path := by
  refine ⟨⟨fun _ _ => some false, fun _ => [], fun _ _ => false⟩,
    [⟨aRead, [tilde, 94, 97]⟩], aRead, [tilde, 94, 97], ?_, ?_⟩
  · exact ⟨_, List.mem_singleton.mpr rfl, rfl, Or.inr (Or.inr (Or.inr rfl))⟩
  · rw [← matchesPermission_iff]
    decide

/-! ### non-vacuity: two users with overlapping permissions, an IPv6 /64, a regex path -/

section Examples

/-- oracle for the examples: regex `^cam[0-9]$`-like stub = "subject starts with c", sha/argon off -/
def exOracle : Oracle :=
  ⟨fun pat subj => if pat = asc ['^','c'] then some (subj.head? == some 99) else none,
   fun _ => asc ['h'], fun _ _ => false⟩

def exNet6 : IPNet := ⟨[0x20, 0x01, 0x0d, 0xb8, 0, 0, 0, 1, 0, 0, 0, 0, 0, 0, 0, 0], cidrMask 64 16⟩

def exUsers : List User :=
  [ ⟨asc ['b','o','b'], asc ['p','w'], [exNet6], [⟨aRead, tilde :: asc ['^','c']⟩, ⟨aPublish, asc ['x']⟩]⟩,
    ⟨anyUser, [], [], [⟨aRead, asc ['c','a','m']⟩]⟩ ]

def exReq (ip : Bytes) (user pass path : Bytes) : Req :=
  ⟨aRead, path, user, pass, [], ip, none, true⟩

def exIP6 : Bytes := [0x20, 0x01, 0x0d, 0xb8, 0, 0, 0, 1, 9, 9, 9, 9, 9, 9, 9, 9]
def exIP6out : Bytes := [0x20, 0x01, 0x0d, 0xb8, 0, 0, 0, 2, 9, 9, 9, 9, 9, 9, 9, 9]

example : WellFormed exNet6 64 := ⟨Or.inr ⟨by decide, by decide⟩, by decide⟩
-- bob from inside the /64 reading a regex path: admitted by the first entry
example : authenticate exOracle exUsers (exReq exIP6 (asc ['b','o','b']) (asc ['p','w']) (asc ['c','1']))
    = .ok (asc ['b','o','b']) := by decide +kernel
-- wrong password, path `cam`: rejected by the first entry, admitted by the overlapping `any` entry
example : authenticate exOracle exUsers (exReq exIP6 (asc ['b','o','b']) (asc ['n','o']) (asc ['c','a','m']))
    = .ok (asc ['b','o','b']) := by decide +kernel
-- outside the /64 with a path only the first entry grants: rejected; credentials supplied ⇒ no ask
example : authenticate exOracle exUsers (exReq exIP6out (asc ['b','o','b']) (asc ['p','w']) (asc ['c','1']))
    = .err false := by decide +kernel
-- anonymous, nothing grants `zzz`: rejected and asked for credentials
example : authenticate exOracle exUsers (exReq exIP6 [] [] (asc ['z'])) = .err true := by decide +kernel
-- v4-mapped client address is collapsed before comparing with a v4 /24
example : ipnetContains ⟨[10, 0, 0, 0], cidrMask 24 4⟩ [0,0,0,0,0,0,0,0,0,0,0xff,0xff,10,0,0,77] = true := by
  decide +kernel
example : ipnetContains ⟨[10, 0, 0, 0], cidrMask 24 4⟩ [10, 0, 1, 77] = false := by decide +kernel
-- nil network + empty client IP: `Contains` says true (quirk of net.IPNet.Contains, mirrored)
example : ipnetContains ⟨[], []⟩ [] = true := by decide +kernel

end Examples

end MtxVerif.C01
