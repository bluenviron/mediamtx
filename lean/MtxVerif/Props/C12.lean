/-
C12 — API configuration edits are exact and atomic.  Property theorems.

`stepOK` (Model/C12) is the property for one edit, as a relation between the configuration before and
after; the driver evaluates it on the IMPLEMENTATION's states.  Here: the model of the code satisfies it
for every state, every edit, every verdict of `Validate`, every universe (`step_ok`), hence along every
edit history (`history_ok`) — provided the clone does not share cells with the running configuration
(`shared = false`, i.e. C11).  With `shared = true` (today's `deepClone`) "a rejected edit is a no-op"
is false: `rejected_is_noop_witness`.
-/
import MtxVerif.Model.C12
import MtxVerif.Gen.C12

namespace MtxVerif.C12

theorem get_append (a b : Rec) (k : Key) :
    get (a ++ b) k = (match get a k with | some v => some v | none => get b k) := by
  unfold get
  rw [List.find?_append]
  cases a.find? (fun e => e.1 == k) <;> rfl

theorem get_cons (e : Key × Val) (r : Rec) (k : Key) :
    get (e :: r) k = if e.1 == k then some e.2 else get r k := by
  unfold get
  rw [List.find?_cons]
  cases e.1 == k <;> rfl

theorem pget_cons (e : Name × Rec) (m : PMap) (n : Name) :
    pget (e :: m) n = if e.1 == n then some e.2 else pget m n := by
  unfold pget
  rw [List.find?_cons]
  cases e.1 == n <;> rfl

theorem pget_cons_ne (n' : Name) (r : Rec) (m : PMap) (n : Name) (h : n ≠ n') :
    pget ((n', r) :: m) n = pget m n := by
  rw [pget_cons, if_neg (by simpa using h.symm)]

theorem pget_cons_self (n : Name) (r : Rec) (m : PMap) : pget ((n, r) :: m) n = some r := by
  rw [pget_cons, if_pos (beq_self_eq_true n)]

theorem pget_premove (m : PMap) (n n' : Name) :
    pget (premove m n) n' = if n' = n then none else pget m n' := by
  unfold pget premove
  rw [List.find?_filter]
  by_cases h : n' = n
  · rw [if_pos h, h, List.find?_eq_none.mpr fun e _ => by simp]
    rfl
  · rw [if_neg h]
    congr 2
    funext e
    by_cases he : e.1 = n'
    · simp [he, h]
    · simp [he]

theorem mem_names (m : PMap) (n : Name) : n ∈ names m ↔ (pget m n).isSome = true := by
  induction m with
  | nil => simp [names, pget]
  | cons e m ih =>
    rw [pget_cons]
    by_cases he : e.1 = n
    · simp [names, he]
    · have hne : ¬ (n = e.1) := fun h => he h.symm
      simp [names, he, hne, List.mem_filter, ih]

theorem names_nodup (m : PMap) : (names m).Nodup := by
  induction m with
  | nil => simp [names]
  | cons e m ih =>
    simp only [names, List.nodup_cons, List.mem_filter]
    refine ⟨by simp, ih.filter _⟩

theorem pget_map (l : List Name) (f : Name → Rec) (n : Name) :
    pget (l.map fun x => (x, f x)) n = if n ∈ l then some (f n) else none := by
  induction l with
  | nil => rfl
  | cons a l ih =>
    rw [List.map_cons, pget_cons, ih]
    by_cases ha : a = n
    · simp [ha]
    · have hne : ¬ (n = a) := fun h => ha h.symm
      simp [ha, hne]

/-- reads after a successful edit: a path exists iff it is stored, and it is defaults ⊕ optional values -/
theorem pget_derive (d : Rec) (o : PMap) (n : Name) :
    pget (derive d o) n = (pget o n).map (derive1 d n) := by
  unfold derive
  simp only [pget_map, mem_names]
  cases pget o n <;> rfl

theorem recEq_refl (ks : List Key) (a : Rec) : recEq ks a a = true := by
  simp [recEq]

theorem pmapEqExcept_of (U : Univ) (x : Option Name) (a b : PMap)
    (h : ∀ n, some n ≠ x → pget b n = pget a n) : pmapEqExcept U x a b = true := by
  unfold pmapEqExcept
  rw [List.all_eq_true]
  intro n _
  by_cases hx : some n = x
  · simp [hx]
  · rw [h n hx]
    cases pget a n <;> simp [recEq_refl]

theorem pmapEqExcept_refl (U : Univ) (x : Option Name) (a : PMap) : pmapEqExcept U x a a = true :=
  pmapEqExcept_of U x a a fun _ _ => rfl

theorem pmapEqExcept_cons (U : Univ) (n : Name) (r : Rec) (o : PMap) :
    pmapEqExcept U (some n) o ((n, r) :: o) = true :=
  pmapEqExcept_of U _ _ _ fun n' h => pget_cons_ne n r o n' fun e => h (congrArg some e)

theorem pmapEqExcept_premove (U : Univ) (n : Name) (o : PMap) :
    pmapEqExcept U (some n) o (premove o n) = true :=
  pmapEqExcept_of U _ _ _ fun n' h => (pget_premove o n n').trans (if_neg fun e => h (congrArg some e))

theorem sameSt_refl (U : Univ) (s : St) : sameSt U s s = true := by
  simp [sameSt, recEq_refl, pmapEqExcept_refl]

theorem coherent_revalidate (U : Univ) (g d : Rec) (o : PMap) :
    coherent U { g := g, d := d, o := o, p := derive d o } = true := by
  unfold coherent
  rw [List.all_eq_true]
  intro n _
  simp only [pget_derive]
  cases pget o n <;> simp [recEq_refl]

theorem recPatched_append (ks : List Key) (r b : Rec) : recPatched ks (r ++ b) r b = true := by
  unfold recPatched
  rw [List.all_eq_true]
  intro k _
  rw [get_append]
  cases get r k <;> simp

/-- **C12, one edit**: for every state, edit, verdict of `Validate` and universe, the model of the code
(with an independent clone) satisfies the property relation. -/
theorem step_ok (U : Univ) (s : St) (op : Op) (acc : Bool) :
    stepOK U s op (step false s op acc).1 (step false s op acc).2 = true := by
  -- in every case `step` and `stepOK` evaluate, and each comparison left is one of the lemmas above
  cases op with
  | gpatch req | dpatch req =>
    cases req <;> cases acc <;>
      simp only [step, stepOK, revalidate, sameSt_refl, coherent_revalidate, recPatched_append, recEq_refl,
        pmapEqExcept_refl, Bool.and_self, Bool.false_eq_true, if_false, if_true]
  | add n req | patch n req | replace n req =>
    cases req <;> cases hp : pget s.o n <;> cases acc <;>
      simp only [step, stepOK, revalidate, phas, hp, sameSt_refl, coherent_revalidate, recPatched_append, recEq_refl,
        pmapEqExcept_cons, pget_cons_self, Option.isSome_none, Option.isSome_some, Bool.and_self, Bool.not_false,
        Bool.false_eq_true, if_false, if_true]
  | delete n =>
    cases hp : pget s.o n <;> cases acc <;>
      simp only [step, stepOK, revalidate, phas, hp, sameSt_refl, coherent_revalidate, recEq_refl,
        pmapEqExcept_premove, pget_premove, Option.isSome_none, Option.isSome_some, Bool.and_self, Bool.not_false,
        Bool.not_true, Bool.false_eq_true, if_false, if_true]

/-- every step of every history satisfies the property relation -/
def AllOK (shared : Bool) : St → List (Op × Bool) → Prop
  | _, [] => True
  | s, (op, acc) :: rest =>
    (∀ U, stepOK U s op (step shared s op acc).1 (step shared s op acc).2 = true) ∧
    AllOK shared (step shared s op acc).1 rest

/-- **C12 over all edit histories** (all sequences of add/patch/replace/delete/global/pathdefaults edits,
valid or not, decodable or not), from every initial configuration. -/
theorem history_ok : ∀ (h : List (Op × Bool)) (s : St), AllOK false s h
  | [], _ => trivial
  | (op, acc) :: rest, s => ⟨fun U => step_ok U s op acc, history_ok rest _⟩

/-- concurrent edits: whatever sequential order the server gives the edits in flight, every step satisfies
the property relation — so the driver accepts an outcome iff it is the outcome of SOME order (linearisability) -/
theorem par_any_order_ok (h h' : List (Op × Bool)) (_ : h'.Perm h) (s : St) : AllOK false s h' :=
  history_ok h' s

/-! #### the clauses of the statement, spelled out on lookups (no universe) -/

/-- the statement "a rejected edit is a no-op" for a given sharing behaviour of the clone -/
def rejected_is_noop_full (shared : Bool) : Prop :=
  ∀ (s : St) (op : Op) (acc : Bool), (step shared s op acc).2 ≠ .ok → (step shared s op acc).1 = s

/-- decidable class of the known finding: a path patch of an existing path that `Validate` rejects -/
def inLeakClass (s : St) (op : Op) (acc : Bool) : Bool :=
  match op with
  | .patch n (some _) => phas s.o n && !acc
  | _ => false

theorem step_outcome (sh : Bool) (s : St) (op : Op) (acc : Bool) :
    ((step sh s op acc).2 = .ok → ∃ e, (step sh s op acc).1 = revalidate e) ∧
    ((step sh s op acc).2 ≠ .ok → sh = false ∨ inLeakClass s op acc = false → (step sh s op acc).1 = s) := by
  fun_cases step sh s op acc
  case case15 n r old hp edited hacc =>
    -- the one rejected edit that writes: the state is unchanged iff the clone is independent
    refine ⟨nofun, fun _ h => ?_⟩
    rcases h with rfl | h
    · rfl
    · simp [inLeakClass, phas, hp, hacc] at h
  all_goals first | exact ⟨fun _ => ⟨_, rfl⟩, fun h => absurd rfl h⟩ | exact ⟨nofun, fun _ _ => rfl⟩

/-- an edit that is not accepted leaves the running configuration untouched -/
theorem rejected_is_noop (s : St) (op : Op) (acc : Bool) (h : (step false s op acc).2 ≠ .ok) :
    (step false s op acc).1 = s :=
  (step_outcome false s op acc).2 h (.inl rfl)

theorem rejected_is_noop_fixed : rejected_is_noop_full false := rejected_is_noop

/-- with a sharing clone, the no-op statement still holds outside that class … -/
theorem rejected_is_noop_partial (s : St) (op : Op) (acc : Bool) (hc : inLeakClass s op acc = false)
    (h : (step true s op acc).2 ≠ .ok) : (step true s op acc).1 = s :=
  (step_outcome true s op acc).2 h (.inr hc)

/-- … and fails inside it: PATCH path `a` with a value `Validate` rejects -/
theorem rejected_is_noop_witness : ¬ rejected_is_noop_full true := by
  intro h
  have := h { o := [("a", [])] } (.patch "a" (some [("source", "x")])) false (by decide)
  exact absurd (congrArg St.o this) (by decide)

/-- `add` fails iff the name exists (whatever the body, when it is decodable) -/
theorem add_fails_iff_exists (sh : Bool) (s : St) (n : Name) (r : Rec) (acc : Bool) :
    (step sh s (.add n (some r)) acc).2 = .exists ↔ phas s.o n = true := by
  dsimp only [step]
  cases phas s.o n <;> cases acc <;> simp

/-- `delete` fails with not-found iff the name is missing; if accepted the path is gone, others untouched -/
theorem delete_fails_iff_missing (sh : Bool) (s : St) (n : Name) (acc : Bool) :
    (step sh s (.delete n) acc).2 = .notFound ↔ phas s.o n = false := by
  dsimp only [step]
  cases phas s.o n <;> cases acc <;> simp

theorem delete_removes (sh : Bool) (s : St) (n : Name) (h : (step sh s (.delete n) true).2 = .ok) (n' : Name) :
    pget (step sh s (.delete n) true).1.o n' = if n' = n then none else pget s.o n' := by
  dsimp only [step] at h ⊢
  cases hp : phas s.o n <;> rw [hp] at h
  · cases h
  · exact pget_premove s.o n n'

/-- an accepted path patch changes exactly the fields present in the request … -/
theorem patch_exact (sh : Bool) (s : St) (n : Name) (r old : Rec) (ho : pget s.o n = some old) :
    ∃ r', pget (step sh s (.patch n (some r)) true).1.o n = some r' ∧
      (∀ k, get r' k = match get r k with | some v => some v | none => get old k) ∧
      (∀ n', n' ≠ n → pget (step sh s (.patch n (some r)) true).1.o n' = pget s.o n') ∧
      (step sh s (.patch n (some r)) true).1.g = s.g ∧ (step sh s (.patch n (some r)) true).1.d = s.d := by
  have hs : step sh s (.patch n (some r)) true = (revalidate { s with o := (n, r ++ old) :: s.o }, .ok) := by
    dsimp only [step]
    rw [ho]
    rfl
  rw [hs]
  exact ⟨r ++ old, pget_cons_self n _ s.o, get_append r old, fun n' hn => pget_cons_ne n _ s.o n' hn, rfl, rfl⟩

/-- … and so do global and path-defaults patches -/
theorem gpatch_exact (sh : Bool) (s : St) (r : Rec) :
    (∀ k, get (step sh s (.gpatch (some r)) true).1.g k = match get r k with | some v => some v | none => get s.g k) ∧
    (step sh s (.gpatch (some r)) true).1.d = s.d ∧ (step sh s (.gpatch (some r)) true).1.o = s.o :=
  ⟨get_append r s.g, rfl, rfl⟩

theorem dpatch_exact (sh : Bool) (s : St) (r : Rec) :
    (∀ k, get (step sh s (.dpatch (some r)) true).1.d k = match get r k with | some v => some v | none => get s.d k) ∧
    (step sh s (.dpatch (some r)) true).1.g = s.g ∧ (step sh s (.dpatch (some r)) true).1.o = s.o :=
  ⟨get_append r s.d, rfl, rfl⟩

/-- `replace` sets exactly the given fields: the stored record IS the request -/
theorem replace_sets_exactly (sh : Bool) (s : St) (n : Name) (r : Rec) :
    pget (step sh s (.replace n (some r)) true).1.o n = some r ∧
    ∀ n', n' ≠ n → pget (step sh s (.replace n (some r)) true).1.o n' = pget s.o n' :=
  ⟨pget_cons_self n r s.o, pget_cons_ne n r s.o⟩

/-- a successful edit is what subsequent reads return: after every accepted edit each readable path is the
(new) defaults overlaid with its (new) stored values, named after its key; nothing else is readable -/
theorem accepted_is_read_back (sh : Bool) (s : St) (op : Op) (acc : Bool) (h : (step sh s op acc).2 = .ok) (n : Name) :
    pget (step sh s op acc).1.p n =
      (pget (step sh s op acc).1.o n).map (derive1 (step sh s op acc).1.d n) := by
  obtain ⟨e, he⟩ := (step_outcome sh s op acc).1 h
  rw [he]
  exact pget_derive e.d e.o n

/-- field-level reading of the previous theorem -/
theorem read_back_field (d : Rec) (n : Name) (r : Rec) (k : Key) (hk : k ≠ "name") :
    get (derive1 d n r) k = match get r k with | some v => some v | none => get d k := by
  unfold derive1
  rw [get_cons, if_neg (by simpa using hk.symm), get_append]

/-! #### tie to C11: which variant of the model the driver runs -/

/-- the clone shares `OptionalPath.Values` with the running configuration iff `deepClone` has no Interface
case (regenerated from the source by tools/xlate/c11) -/
def genShared : Bool := !Gen.C12.caseInterface

/-! #### non-vacuity -/

example : (step false { o := [("a", [("record", "true")])] } (.patch "a" (some [("source", "x")])) true).2 = .ok := by
  decide
example : (step true { o := [("a", [])] } (.patch "a" (some [("source", "x")])) false).1.o
    = [("a", [("source", "x")]), ("a", [])] := by decide
example : (step false { o := [("a", [])] } (.add "a" (some [])) true).2 = .exists := by decide

end MtxVerif.C12
