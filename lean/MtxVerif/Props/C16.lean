/-
C16 — At most one publisher per path; replaced publishers are cut off.  Property theorems over the
shared path state machine, for every valid configuration and every history (all interleavings of
publisher add/remove/write, reader add/remove/detach, static source events, timers, reload, close).
-/
import MtxVerif.Model.C16
import MtxVerif.Lemmas.C16Stream
import MtxVerif.Lemmas.C18Out

namespace MtxVerif.C16
open MtxVerif.PathSM

def Reach (s : State) : Prop := ∃ c es, c.valid = true ∧ s = (run (init c) es).1

theorem reach_inv {s : State} (h : Reach s) : Inv s ∧ SInv s := by
  obtain ⟨c, es, hv, rfl⟩ := h
  exact ⟨inv_reach c hv es, sinv_reach c hv es⟩

theorem reach_run {s : State} (h : Reach s) (es : List Event) : Reach (run s es).1 := by
  obtain ⟨c, es0, hv, rfl⟩ := h
  refine ⟨c, es0 ++ es, hv, ?_⟩
  have : ∀ (l : List Event) (s : State), (run s (l ++ es)).1 = (run (run s l).1 es).1 := by
    intro l; induction l with
    | nil => intro s; rfl
    | cons x xs ih => intro s; exact ih _
  rw [this]

theorem pub_kind {s : State} (h : Inv s) {q : Nat} (hs : s.source = some (.pub q)) : s.conf.kind = .publisher := by
  cases hk : s.conf.kind with
  | publisher => rfl
  | static => have := h.kind.kStatic.mp hk; rw [hs] at this; cases this
  | redirect => have := h.kind.kRedirect.mp hk; rw [hs] at this; cases this

/-- **One source: rejection.** While a publisher is attached and `overridePublisher` is off, another
`addPublisher` is answered "someone is already publishing" and changes nothing at all. -/
theorem second_publisher_rejected {s : State} (h : Reach s) (hc : s.closed = false) (q p : Nat) (ok : Bool)
    (hs : s.source = some (.pub q)) (ho : s.conf.overridePublisher = false) :
    step s (.addPublisher p ok) = (s, [.pubReply .busy]) := by
  have hi := (reach_inv h).1
  have hk := pub_kind hi hs
  unfold step stepW
  rw [if_neg (by simp [hi.np]), if_neg (by simp [hc])]
  show ((closeCheck (doAddPublisher p ok { s := s })).s, (closeCheck (doAddPublisher p ok { s := s })).out) = _
  unfold doAddPublisher
  rw [if_neg (by simp [hk]), if_pos (by simp [hs, ho])]
  unfold closeCheck shouldClose
  simp [hs]

theorem pubAttach_ok (p : Nat) (w : W) :
    (pubAttach p true w).s.source = some (.pub p) ∧ (pubAttach p true w).s.srcSub = some w.s.nextSub ∧
    Out.pubReply (.ok w.s.nextSub) ∈ (pubAttach p true w).out := by
  obtain ⟨w1, e, e1⟩ := pubAttach_ok_s p w
  have h1 : (consumeOnHoldRequests w1).s.source = w1.s.source := (congrArg State.source (consume_frame w1) :)
  refine ⟨by rw [e, h1, e1]; rfl, by rw [e, (consume_sub w1).1, e1]; rfl, ?_⟩
  have : (if w.s.conf.alwaysAvailable = true then w else setAvailable w).s.nextSub = w.s.nextSub := by
    split <;> simp [setAvailable_s]
  unfold pubAttach
  dsimp only
  simp only [Bool.not_true, Bool.false_eq_true, if_false, emit_out]
  rw [this]; simp

/-- **One source: replacement.** With `overridePublisher`, the first thing the step does is
`Close()` the previous publisher — before the new stream is created, before the path is reported
ready, before the new publisher is answered; an accepted new publisher is then the (only) source and
owns a brand-new sub-stream. -/
theorem override_closes_first {s : State} (h : Reach s) (hc : s.closed = false) (q p : Nat) (ok : Bool)
    (hs : s.source = some (.pub q)) (ho : s.conf.overridePublisher = true) :
    [Out.pubClosed q] <+: (step s (.addPublisher p ok)).2 ∧
    (ok = true → (step s (.addPublisher p ok)).1.source = some (.pub p) ∧
      (step s (.addPublisher p ok)).1.srcSub = some s.nextSub ∧
      Out.pubReply (.ok s.nextSub) ∈ (step s (.addPublisher p ok)).2) := by
  have hi := (reach_inv h).1
  have hk := pub_kind hi hs
  have e : stepW (.addPublisher p ok) { s := s } =
      closeCheck (pubAttach p ok (executeRemovePublisher (emit (.pubClosed q) { s := s }))) := by
    unfold stepW
    rw [if_neg (by simp [hi.np]), if_neg (by simp [hc])]
    show closeCheck (doAddPublisher p ok { s := s }) = _
    unfold doAddPublisher
    rw [if_neg (by simp [hk]), if_neg (by simp [ho])]
    unfold pubOverride
    simp only [hs]
  unfold step
  rw [e]
  dsimp only
  constructor
  · exact pre_closeCheck (pre_pubAttach _ _ (pre_executeRemovePublisher (by simp [emit])))
  · intro hok; subst hok
    have A := pubAttach_ok p (executeRemovePublisher (emit (.pubClosed q) { s := s }))
    have hn : (executeRemovePublisher (emit (.pubClosed q) { s := s })).s.nextSub = s.nextSub := by
      simp [executeRemovePublisher_s]
    rw [hn] at A
    exact ⟨by rw [closeCheck_s]; exact A.1, by rw [closeCheck_s]; exact A.2.1, mem_of_pre (pre_closeCheck List.prefix_rfl) A.2.2⟩

/-- a removed publisher no longer owns a live sub-stream, and the path has no source -/
theorem remove_detaches {s : State} (h : Reach s) (hc : s.closed = false) (p : Nat)
    (hs : s.source = some (.pub p)) :
    (step s (.removePublisher p)).1.source = none ∧ (step s (.removePublisher p)).1.srcSub = none := by
  have hi := (reach_inv h).1
  have e : (step s (.removePublisher p)).1 = (executeRemovePublisher { s := s }).s := by
    unfold step stepW
    rw [if_neg (by simp [hi.np]), if_neg (by simp [hc])]
    show (closeCheck (doRemovePublisher p { s := s })).s = _
    rw [closeCheck_s]
    unfold doRemovePublisher
    rw [if_pos hs]
  rw [e]
  simp [executeRemovePublisher_s]

/-- a live sub-stream always belongs to the path's current source -/
theorem live_sub_has_source {s : State} (h : Reach s) (hk : s.srcSub.isSome = true) : s.source.isSome = true := by
  obtain ⟨hi, hsi⟩ := reach_inv h
  rcases hsi.d9 hk with ⟨p, hp⟩ | hup
  · rw [hp]; rfl
  · have := hi.kind.kStatic.mp (hi.src.s4 (hi.src.s3 hup)); rw [this]; rfl

/-- **No stale delivery.** In every reachable state: a unit written through a sub-stream that is not
the live sub-stream of the current source (its publisher was replaced or removed, its static source
went not-ready or was stopped, or the path closed) is delivered to no reader attached to the path. -/
theorem no_stale_delivery {s : State} (h : Reach s) (k : Nat) (hk : s.srcSub ≠ some k) :
    ∀ r ∈ deliver s k, r ∉ s.readers := by
  obtain ⟨hi, hsi⟩ := reach_inv h
  intro r hr hmem
  unfold deliver at hr
  split at hr
  · cases hr
  · rename_i k' sid hf
    have hkk : k' = k := by simpa using List.find?_some hf
    have hm : (k', sid) ∈ s.subs := List.mem_of_find?_eq_some hf
    by_cases haa : s.conf.alwaysAvailable = true
    · by_cases hcl : s.closed = true
      · rw [(hi.cl hcl).2.1] at hmem; cases hmem
      · have hd5 := hsi.d5 haa (by simpa using hcl)
        rw [haa] at hr
        by_cases hcur : s.aaCur = some k
        · rw [hd5] at hcur; exact hk hcur
        · simp [hcur] at hr
    · have haa' : s.conf.alwaysAvailable = false := by simpa using haa
      rw [haa'] at hr
      simp only [Bool.false_and, Bool.false_eq_true, if_false, List.mem_map, List.mem_filter] at hr
      obtain ⟨x, ⟨hx, hxs⟩, hxr⟩ := hr
      have hxs' : x.2 = sid := by simpa using hxs
      have hreg : (r, sid) ∈ s.sreg := by rw [← hxr, ← hxs']; exact hx
      have hst := hsi.d3 r hmem sid hreg
      have := hsi.d7 haa' (k', sid) hm hst
      rw [hkk] at this
      exact hk this

/-- On an alwaysAvailable stream the stale-sub-stream guard of `SubStream.WriteUnit` drops the unit
altogether, not even readers that linger at stream level see it. -/
theorem stale_write_dropped_aa {s : State} (h : Reach s) (k : Nat) (haa : s.conf.alwaysAvailable = true)
    (hc : s.closed = false) (hk : s.srcSub ≠ some k) : deliver s k = [] := by
  obtain ⟨hi, hsi⟩ := reach_inv h
  unfold deliver
  split
  · rfl
  · have hd5 := hsi.d5 haa hc
    have : s.aaCur ≠ some k := by rw [hd5]; exact hk
    simp [haa, this]

/-- **Cut off for good.** Sub-stream ids are never reused: once a sub-stream that has been handed out
is not the live one, it never becomes live again, whatever happens afterwards. -/
theorem stale_forever {s : State} (h : Reach s) (k : Nat) (hlt : k < s.nextSub) (hk : s.srcSub ≠ some k)
    (es : List Event) : (run s es).1.srcSub ≠ some k ∧ k < (run s es).1.nextSub := by
  induction es generalizing s with
  | nil => exact ⟨hk, hlt⟩
  | cons e es ih =>
    have hstep := stepW_sub e { s := s } (reach_inv h).1
    have hr : Reach (step s e).1 := reach_run h [e]
    have hk' : (step s e).1.srcSub ≠ some k := by
      show (stepW e { s := s }).s.srcSub ≠ some k
      rcases hstep.1 with h1 | h1 | ⟨k2, h1, h2, _⟩
      · rw [h1]; exact hk
      · rw [h1]; exact fun e => by cases e
      · rw [h1]; intro e; injection e with e
        have h2' : s.nextSub ≤ k2 := h2
        omega
    exact ih hr (Nat.lt_of_lt_of_le hlt hstep.2) hk'

/-- **The property, over whole histories.** Take any reachable state in which sub-stream `k` has been
handed out but is not live (its publisher has been replaced or removed).  After any further history —
any interleaving of writes, publisher and reader adds/removes, source events, timers, close — a unit
written through `k` reaches no reader attached to the path. -/
theorem replaced_publisher_cut_off {s : State} (h : Reach s) (k : Nat) (hlt : k < s.nextSub)
    (hk : s.srcSub ≠ some k) (es : List Event) :
    ∀ r ∈ deliver (run s es).1 k, r ∉ (run s es).1.readers :=
  no_stale_delivery (reach_run h es) k (stale_forever h k hlt hk es).1

def cOvr : Conf := { kind := .publisher, overridePublisher := true }
def cAA : Conf := { kind := .publisher, overridePublisher := true, alwaysAvailable := true }

/-- replacement: the old reader lingers on the old stream object and still sees the old publisher's
unit; the reader of the new stream does not; the new publisher's unit reaches its reader. -/
example : (run (init cOvr)
    [.addPublisher 1 true, .addReader 1 7, .addPublisher 2 true, .addReader 2 8, .write 0, .write 1]).2.drop 4 =
  [[.delivered [7]], [.delivered [8]]] := by decide

/-- alwaysAvailable: same stream object for everybody; the replaced publisher's write is dropped -/
example : (run (init cAA)
    [.addPublisher 1 true, .addReader 1 7, .write 0, .addPublisher 2 true, .write 0, .write 1]).2.drop 2 =
  [[.delivered [7]], [.pubClosed 1, .hook .online false, .hook .online true, .pubReply (.ok 1)],
   [.delivered []], [.delivered [7]]] := by decide

example : cOvr.valid = true ∧ cAA.valid = true := by decide

end MtxVerif.C16
